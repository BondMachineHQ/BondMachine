/-
  C09 — Simulation results do not depend on scheduling or on other simulations.  (level: PARTIAL)

  Statement (properties.jsonl): simulating a given BondMachine with given stimuli yields the same
  tick-by-tick state on every run, for every Go scheduler interleaving of the per-processor workers
  and every GOMAXPROCS; concurrent simulations in one process do not influence one another; and no
  execution contains a data race.

  Proved here, on the model BMV.SchedSim (the scheduler is the explicit parameter `Schedule` / the
  interleaving of `Ev`s / the interleaving of channel operations):
    * `step_sched_indep`  — if no processor touches `Globals`, every complete schedule of a tick gives
      the same result (steps with disjoint footprints commute);
    * `sim_isolation`     — a product of simulations sharing only untouched `Globals`: under any
      interleaving each component's state is the state of its own events run alone;
    * `barrier_ok`        — in every reachable state of the token/answer protocol, data movement
      never overlaps a worker's step;
    * `globals_break_it`  — with the pipeline phase in `Globals` (the pinned tree) two processors
      running `addp` give different results under two schedules; one simulation changes another's.
  The `Globals` domain itself is regenerated from pkg/procbuilder (BMV/Gen/OpcodeState.lean) and tied
  by `opcode_state_matches`.  What stays runtime truth (partial): that the Go steps really have the
  footprints the model gives them and that no execution has a data race — observed by the harness
  (digests under perturbed schedules, `-race`).
-/
import BMV.Proofs.SchedSim
import BMV.SchedSimGen
namespace BMV.Props.C09
open BMV.SchedSim

/-- `step_sched_indep`: no processor touches `Globals` ⇒ the tick is independent of the schedule -/
theorem step_sched_indep (m : Machine) (hfree : ∀ i, GlobalsFree (m.proc i))
    (σ₁ σ₂ : Schedule) (h₁ : Complete m.n σ₁) (h₂ : Complete m.n σ₂) (g : Globals) (st : BmState) :
    stepSched m σ₁ g st = stepSched m σ₂ g st := by
  simp only [stepSched]
  rw [foldl_stepOne_complete m hfree m.n σ₁ h₁, foldl_stepOne_complete m hfree m.n σ₂ h₂]

/-- … and `Globals` come out untouched -/
theorem step_sched_globals (m : Machine) (hfree : ∀ i, GlobalsFree (m.proc i))
    (σ : Schedule) (h : Complete m.n σ) (g : Globals) (st : BmState) :
    (stepSched m σ g st).1 = g := by
  simp only [stepSched]
  rw [foldl_stepOne_complete m hfree m.n σ h]

/-- `sim_isolation`: any number of simulations in one process, any interleaving `evs` of all their
    events (each simulation may be at a different tick): the state of simulation a is what a's own
    events produce when a runs alone — from any value g' of the (untouched) Globals.  Holds for every
    prefix of every interleaving, hence for the whole tick-by-tick trace. -/
theorem sim_isolation (ms : Nat → Machine) (hfree : ∀ a i, GlobalsFree ((ms a).proc i)) (a : Nat)
    (evs : List Ev) (g g' : Globals) (S : Nat → BmState) :
    (runEvs ms (g, S) evs).2 a = (runEvs1 (ms a) (g', S a) (evs.filter fun e => e.sim = a)).2 := by
  rw [(runEvs_proj ms hfree a evs g S).2, runEvs1_free (ms a) (hfree a) g g']

/-- the events of one tick are `stepSched` (links `sim_isolation` to `step_sched_indep`) -/
theorem tick_is_stepSched (m : Machine) (a : Nat) (σ : Schedule) (g : Globals) (st : BmState) :
    runEvs1 m (g, st) (tickEvents a σ) = stepSched m σ g st := by
  have key : ∀ (σ : List Nat) (gs : Globals × BmState),
      List.foldl (fun x y => evApply1 m x (Ev.step a y)) gs σ
        = ((σ.foldl (stepOne m) (gs.1, gs.2.cells)).1,
            { gs.2 with cells := (σ.foldl (stepOne m) (gs.1, gs.2.cells)).2 }) := by
    intro σ
    induction σ with
    | nil => intro gs; rfl
    | cons i σ ih =>
      intro gs
      simp only [List.foldl_cons]
      rw [ih]
      rfl
  simp only [runEvs1, tickEvents, List.foldl_append, List.foldl_cons, List.foldl_nil, List.foldl_map]
  rw [key]
  rfl

/-- during movement every worker is blocked on its token channel -/
theorem barrier_all_idle (P : Nat) (s : BSt) (hr : BReach P s) (hm : s.main.isMovement = true)
    (i : Nat) (w : WSt) (hw : getW s.ws i = some w) : w = .idle := by
  obtain ⟨_, hmain⟩ := binv_reach P s hr
  have hb : busy s.ws = 0 := by
    cases hmn : s.main <;> rw [hmn] at hmain hm <;> simp_all [MainPc.isMovement]
  exact busy_zero s.ws hb i w hw

/-- `barrier_ok`: for every number of processors and every interleaving of the channel operations of
    `VM.Step` and the `Processor_execute` workers, whenever main moves data (pre- or post-compute
    movement) no worker is inside its step -/
theorem barrier_ok (P : Nat) (s : BSt) (hr : BReach P s) (hm : s.main.isMovement = true) (i : Nat) :
    getW s.ws i ≠ some .stepping :=
  fun hst => nomatch barrier_all_idle P s hr hm i .stepping hst

/-- the ISA processors are globals-free exactly when the phase cells are per-VM -/
theorem isa_globals_free (mod : Nat) (prog : List Op) : GlobalsFree (isaProc ⟨false, false⟩ mod prog) := by
  intro g c
  simp only [isaProc]
  cases prog[lget c 0]? with
  | none => rfl
  | some op =>
    cases op with
    | addp r s => exact pipelined_local 0 2 _ mod r s g c
    | multp r s => exact pipelined_local 1 3 _ mod r s g c
    | _ => rfl

/-! ### the counterexample for the pinned tree -/

def brkProgs : List (List Op) :=
  [[.rset 0 1, .rset 1 2, .addp 0 1, .r2o 0], [.rset 0 10, .rset 1 20, .addp 0 1, .r2o 0]]

def cellsOf (r : Globals × BmState) : List PState := [r.2.cells 0, r.2.cells 1]

/-- `globals_break_it`: two processors running `addp`, pipeline phase in the shared opcode object:
    the two schedules [0,1] and [1,0] are both complete and give different machine states after
    three ticks — and with per-VM phase cells the same two schedules agree. -/
theorem globals_break_it :
    Complete 2 [0, 1] ∧ Complete 2 [1, 0]
    ∧ cellsOf (isaRun ⟨true, true⟩ 256 brkProgs [0, 1] gInit 3 isaInit)
        ≠ cellsOf (isaRun ⟨true, true⟩ 256 brkProgs [1, 0] gInit 3 isaInit)
    ∧ cellsOf (isaRun ⟨false, false⟩ 256 brkProgs [0, 1] gInit 3 isaInit)
        = cellsOf (isaRun ⟨false, false⟩ 256 brkProgs [1, 0] gInit 3 isaInit) := by
  refine ⟨⟨by decide, ?_⟩, ⟨by decide, ?_⟩, by decide +kernel, by decide +kernel⟩
  · intro i; simp only [List.mem_cons, List.not_mem_nil, or_false]; omega
  · intro i; simp only [List.mem_cons, List.not_mem_nil, or_false]; omega

/-- interference between simulations: the same one-processor simulation, run for three ticks, ends in
    a different state depending on the `Globals` an earlier simulation left behind -/
theorem globals_break_isolation :
    cellsOf (isaRun ⟨true, true⟩ 256 [[.rset 0 1, .rset 1 2, .addp 0 1]] [0] [0, 0] 3 isaInit)
      ≠ cellsOf (isaRun ⟨true, true⟩ 256 [[.rset 0 1, .rset 1 2, .addp 0 1]] [0] [1, 0] 3 isaInit) := by
  decide +kernel

/-! ### regenerated obligation (BMV/Gen/OpcodeState.lean is rewritten from pkg/procbuilder each run) -/

/-- the state outside any VM that the Go opcodes write is exactly the model's declared `Globals`
    domain (pinned tree, or empty after the repair), and the shared read-only reference fields are
    the declared ones: a new pointer/map/slice field of an opcode object, a new write through one,
    or a package-level variable assigned in a `Simulate` breaks this obligation -/
theorem opcode_state_matches :
    (genGlobals = declaredGlobalsPinned ∨ genGlobals = declaredGlobalsFixed)
    ∧ genReadOnly = declaredReadOnly := by decide +kernel

/-- the process-wide registries of pkg/bmnumbers and pkg/procbuilder and their writers are exactly the
    declared ones: a new package-level table, or a new function writing one of them (e.g. a `Simulate`
    or a step of the simulation loop), breaks this obligation.  That the registration functions do not
    write when the entry already exists is checked dynamically (registry sizes around every simulation). -/
theorem process_registries_match : BMV.Gen.OpcodeState.pkgGlobals = declaredRegistries := by decide +kernel

/-- clock dependence: the calls of package time in pkg/procbuilder, pkg/bondmachine, pkg/simbox and
    pkg/bmnumbers are exactly the declared ones (none inside a simulation step) -/
theorem clock_sites_match : BMV.Gen.OpcodeState.clockSites = declaredClockSites := by decide +kernel

/-! ### non-vacuity -/

example : Complete 3 [2, 0, 1] := by
  refine ⟨by decide, ?_⟩
  intro i; simp only [List.mem_cons, List.not_mem_nil, or_false]; omega

/-- a reachable barrier state in which main moves data (two processors, a whole tick) -/
example : BReach 2 ⟨.moving, [.idle, .idle]⟩ := by
  have s0 := BReach.init (P := 2)
  have s1 := BReach.step (s' := ⟨.sending 0, [.idle, .idle]⟩) .startTick s0 (by decide)
  have s2 := BReach.step (s' := ⟨.sending 1, [.stepping, .idle]⟩) .token s1 (by decide)
  have s3 := BReach.step (s' := ⟨.sending 1, [.answering, .idle]⟩) (.finish 0) s2 (by decide)
  have s4 := BReach.step (s' := ⟨.collecting 0, [.answering, .stepping]⟩) .token s3 (by decide)
  have s5 := BReach.step (s' := ⟨.waitResult 0 0, [.resulting, .stepping]⟩) (.answer 0) s4 (by decide)
  have s6 := BReach.step (s' := ⟨.collecting 1, [.idle, .stepping]⟩) (.result 0) s5 (by decide)
  have s7 := BReach.step (s' := ⟨.collecting 1, [.idle, .answering]⟩) (.finish 1) s6 (by decide)
  have s8 := BReach.step (s' := ⟨.waitResult 1 1, [.idle, .resulting]⟩) (.answer 1) s7 (by decide)
  exact BReach.step (s' := ⟨.moving, [.idle, .idle]⟩) (.result 1) s8 (by decide)

/-- a state that violates the barrier is expressible (the theorem excludes it from `BReach`) -/
example : (⟨.moving, [.stepping]⟩ : BSt).main.isMovement = true ∧ getW [WSt.stepping] 0 = some .stepping := by
  decide +kernel

end BMV.Props.C09
