/-
  C08 — a numeric literal has one meaning, and printing then parsing returns it.

  Part 1 (ambiguity, full strength, over the REGENERATED table BMV.Gen.matchers):
    the verified decision procedure `verdict` is sound in both directions it can answer, and it
    answers `.disjoint` for every pair of this run's matcher table — checked by the kernel
    (`decide +kernel`, no native_decide) each time the table is regenerated.
  Part 2 (round trip, per integer-like type, over the hand-written model BMV.Numbers): see below.
-/
import BMV.Proofs.Regex
import BMV.Proofs.Numbers
import BMV.Gen.Matchers

namespace BMV.Props.C08
open BMV.Regex BMV.Regex.Regex BMV.Gen

/-! ## Part 1 — at most one notation claims any string -/

/-- soundness of the decision procedure: `.disjoint` means no common word at all -/
theorem disjoint_sound (r₁ r₂ : Regex) (h : verdict r₁ r₂ = .disjoint) :
    ∀ s : List Nat, ¬ (matchStr r₁ s = true ∧ matchStr r₂ s = true) :=
  fun s => verdictFuel_disjoint_sound h s

/-- an overlap verdict carries a real common word -/
theorem disjoint_witness (r₁ r₂ : Regex) (w : List Nat) (h : verdict r₁ r₂ = .overlap w) :
    matchStr r₁ w = true ∧ matchStr r₂ w = true :=
  verdictFuel_overlap_witness h

/-- derivative by a code point = derivative by the representative of its character class -/
theorem class_rep (rs : List (Nat × Nat)) (r : Regex) (h : ∀ p ∈ atomRanges r, p ∈ rs) (c : Nat) :
    deriv c r = deriv (repOf (bounds rs) c) r :=
  BMV.Regex.class_rep rs r h c

/-- the regenerated obligation: every pair of this run's matcher table is decided disjoint
    (finite check over the whole table, by kernel evaluation) -/
theorem matchers_table_disjoint : allPairsDisjoint matchers = true := by
  rw [allPairsDisjoint_iff_mask]
  decide +kernel

/-- **matchers_disjoint**: two different matchers of the table never accept the same string -/
theorem matchers_disjoint (i j : Nat) (hi : i < matchers.length) (hj : j < matchers.length)
    (hij : i ≠ j) (s : List Nat) : ¬ (matchStr matchers[i] s = true ∧ matchStr matchers[j] s = true) := by
  have hp := List.pairwise_iff_getElem.mp (allPairsDisjoint_sound matchers_table_disjoint)
  rcases Nat.lt_or_gt_of_ne hij with h | h
  · exact hp i j hi hj h s
  · exact fun ⟨a, b⟩ => hp j i hj hi h s ⟨b, a⟩

/-- **the property's first clause**: for every string, at most one matcher accepts it -/
theorem literal_has_one_meaning (s : List Nat) :
    (matchers.filter (fun r => matchStr r s)).length ≤ 1 :=
  accepting_le_one matchers_table_disjoint s

/-! the historic defect (before fix 2553f67 the dot of `^0u([0-9]+).0+$` was unescaped):
    the decision procedure finds the overlap and its witness "0u000"; "0u100" is a common word too -/

def digitR : Regex := .cls false [(48, 57)]
def oldPlainU : Regex := seq [chr 48, chr 117, plus digitR]
def oldDotU : Regex := seq [chr 48, chr 117, plus digitR, any, plus (chr 48)]
def newDotU : Regex := seq [chr 48, chr 117, plus digitR, chr 46, plus (chr 48)]

theorem historic_overlap_found : verdict oldPlainU oldDotU = .overlap (ofString "0u000") := by
  decide +kernel

theorem historic_overlap_0u100 :
    matchStr oldPlainU (ofString "0u100") = true ∧ matchStr oldDotU (ofString "0u100") = true := by
  decide +kernel

theorem historic_overlap_repaired : verdict oldPlainU newDotU = .disjoint := by decide +kernel

/-! non-vacuity (kept independent of the table's content, which is regenerated): the table has at
    least two entries, the languages involved are not empty, and `.disjoint` is not the procedure's
    only answer -/
example : 2 ≤ matchers.length := by decide
example : matchStr newDotU (ofString "0u1.00") = true := by decide +kernel
example : matchStr newDotU (ofString "0u100") = false := by decide +kernel
example : matchStr oldPlainU (ofString "0u100") = true := by decide +kernel
example : ∃ w, verdict oldPlainU oldDotU = .overlap w := ⟨_, historic_overlap_found⟩

/-! ## Part 2 — printing then parsing returns the value (integer-like types, model BMV.Numbers)

  `importString` models `ImportString`.  `BMNumber.ExportString(nil)` has two models that differ on the
  type `signed` only: `exportStringSpec` is the code as it stands in /repo, where `Signed.ExportString`
  prints `0s` and the signed decimal value of the `bits`-wide pattern (commits 4051846, dc9672b);
  `exportString` has in that place the stub those commits replaced (every signed export fails).  The
  theorems on bin, hex and unsigned are stated with `exportString` and hold of the code as it stands,
  the signed round trip is stated with `exportStringSpec`.  Equality is exact (`= some v`) where the implementation rebuilds the same byte slice, and
  `BMNumber.same` (value, bits, type) for `hex`, whose sized importer allocates `bits` bytes.
  Float16/32, fixed point, FXP, FloPoCo and the linear quantiser have NO theorem here (they go through
  strconv / float64 arithmetic): their round trip is searched on the Go side on every run and is an
  assumption of this property's evidence. -/
open BMV.Numbers

/-- bin: every well-formed value (any width ≥ 1) is returned exactly -/
theorem import_export_bin (v : BMNumber) (h : WFBin v) :
    (exportString v).bind importString = some v := by
  obtain ⟨bytes, bits, ty⟩ := v
  obtain rfl : ty = .bin := h.ty
  have hdl : (digits 2 (valOf bytes)).length ≤ bits := digits_length_le (by decide) h.fits h.pos
  simp only [exportString, exportBinary, if_true, binRaw, Option.bind_some, importString,
    classify_bin_sized, importLit, atoi_digits h.small,
    ofDigits_digits (by decide : 2 ≤ 2) (by decide : 2 ≤ 16)]
  rw [if_neg (Nat.not_lt.mpr hdl), ← (h.len : bytes.length = _), toBytesLE_valOf _ h.ok]

/-- hex: every well-formed value (width a positive multiple of 8) is returned with the same value,
    width and type -/
theorem import_export_hex (v : BMNumber) (h : WFHex v) :
    ∃ v', (exportString v).bind importString = some v' ∧ v'.same v := by
  obtain ⟨bytes, bits, ty⟩ := v
  obtain rfl : ty = .hex := h.ty
  have hm : bits % 8 = 0 := h.mult
  have hp : 8 ≤ bits := h.pos
  have hf : valOf bytes < 2 ^ bits := h.fits
  -- a value below 2^bits = 16^(bits/4) has at most bits/4 hex digits
  have hpow : (2 : Nat) ^ bits = 16 ^ (bits / 4) := by
    rw [show (16 : Nat) = 2 ^ 4 from rfl, ← Nat.pow_mul, Nat.mul_div_cancel' (by omega)]
  have hdl : (digits 16 (valOf bytes)).length ≤ bits / 4 :=
    digits_length_le (by decide) (hpow ▸ hf) (by omega)
  refine ⟨⟨toBytesLE bits (valOf bytes), bits, .hex⟩, ?_, ?_, rfl, rfl⟩
  · simp only [exportString, Option.bind_some, importString, classify_hex_sized, importLit,
      atoi_digits h.small, ofDigits_digits (by decide : 2 ≤ 16) (by decide : 16 ≤ 16), hm]
    rw [if_neg (by decide), if_neg (by omega)]
  · exact valOf_toBytesLE_of_lt (Nat.lt_of_lt_of_le hf (Nat.pow_le_pow_right (by decide) (by omega)))

/-- unsigned, 64 bits (what the un-sized notations `123`, `0u123`, `0d123`, `0u123.0` produce) -/
theorem import_export_unsigned64 (v : BMNumber) (h : WFU64 v) :
    (exportString v).bind importString = some v := by
  obtain ⟨bytes, bits, ty⟩ := v
  obtain rfl : ty = .unsigned := h.ty
  obtain rfl : bits = 64 := h.bits
  have hlen : bytes.length = 8 := h.len
  rw [unsigned_reimport_is_64 _ rfl h.ok (Nat.le_of_eq hlen), ← hlen, toBytesLE_valOf _ h.ok]

/-- signed, 64 bits in 8 bytes: the round trip through `Signed.ExportString` as it stands in /repo
    (`exportStringSpec`); for the stub kept in `exportString` see `signed_export_unimplemented` -/
theorem import_export_signed_repaired (v : BMNumber) (h : WFS64 v) :
    (exportStringSpec v).bind importString = some v := by
  obtain ⟨bytes, bits, ty⟩ := v
  obtain rfl : ty = .signed := h.ty
  obtain rfl : bits = 64 := h.bits
  have hlen : bytes.length = 8 := h.len
  have hv : valOf bytes < 18446744073709551616 := valOf_lt_two64 h.ok (Nat.le_of_eq hlen)
  have hsx : sext 64 (valOf bytes) = valOf bytes := if_neg (by omega)
  simp only [exportStringSpec, hlen, hsx, signedDec, two63, two64]
  rw [if_pos (by decide)]
  by_cases hs : valOf bytes < 9223372036854775808
  · simp only [hs, if_true, Option.bind_some, importString, List.cons_append, List.nil_append,
      classify_signed_pos (dec_digits _), importLit,
      ofDigits_digits (by decide : 2 ≤ 10) (by decide : 10 ≤ 16), Bool.false_eq_true, if_false,
      two63, two64]
    rw [← hlen, toBytesLE_valOf _ h.ok]
  · have hle : 18446744073709551616 - valOf bytes ≤ 9223372036854775808 := by omega
    have hmod : (18446744073709551616 - (18446744073709551616 - valOf bytes)) % 18446744073709551616
        = valOf bytes := by rw [Nat.mod_eq_of_lt] <;> omega
    simp only [hs, if_false, Option.bind_some, importString, List.cons_append, List.nil_append,
      classify_signed_neg (dec_digits _), importLit,
      ofDigits_digits (by decide : 2 ≤ 10) (by decide : 10 ≤ 16), if_true, two63, two64, hle, hmod]
    rw [← hlen, toBytesLE_valOf _ h.ok]

/-- the full statement over all four integer-like types, kept visible … -/
def WFVal (v : BMNumber) : Prop :=
  match v.ty with
  | .bin => WFBin v
  | .hex => WFHex v
  | .signed => WFS64 v
  | .unsigned => bytesOK v.bytes ∧ 1 ≤ v.bits ∧ v.bits ≤ 64 ∧ v.bytes.length = (v.bits + 7) / 8 ∧
      valOf v.bytes < 2 ^ v.bits

def import_export_full : Prop :=
  ∀ v, WFVal v → ∃ v', (exportString v).bind importString = some v' ∧ v'.same v

/-- … and it is FALSE, for two reasons, both reported as findings: with the stub that /repo had before
    4051846 a signed value cannot be exported at all (this one no longer holds of the code:
    `import_export_signed_repaired`) … -/
theorem signed_export_unimplemented (v : BMNumber) (h : v.ty = .signed) : exportString v = none := by
  rw [exportString, h]

/-- … and the text of an unsigned value carries no width, so every re-import has 64 bits
    (`unsigned_reimport_is_64`; this is `Unsigned.ExportString` as it stands) -/
theorem import_export_full_fails : ¬ import_export_full := by
  intro h
  -- the 8-bit value 255, written `0u<8>255`
  have ok : bytesOK [255] := fun b hb => List.mem_singleton.mp hb ▸ (by decide)
  obtain ⟨v', h1, h2⟩ := h ⟨[255], 8, .unsigned⟩ ⟨ok, by decide, by decide, rfl, by decide⟩
  rw [unsigned_reimport_is_64 _ rfl ok (by decide)] at h1
  cases h1
  exact absurd h2.2.1 (by decide)

/-! ### the other import entry points: `ImportUint` (all four Go widths), `ImportBytes`, `ExportUint64` -/

/-- `ImportUint` lays the value out faithfully: without a positive width option the bytes denote the
    value … -/
theorem importUint_value (w v : Nat) (optBits : Int) (hob : optBits ≤ 0) (hv : v < 2 ^ w) (hw : w % 8 = 0) :
    valOf (importUint w v optBits).bytes = v := valOf_importUint hob hv hw

/-- … with a positive width `n` (`ImportUint` as it stands in /repo since commit d156379) the number
    holds exactly `n` bits: the value reduced mod 2^n, in ⌈n/8⌉ bytes, width field `n` — so no exporter
    can index past the slice or print more digits than the width -/
theorem importUint_value_override (w v : Nat) (optBits : Int) (h : 0 < optBits) :
    valOf (importUint w v optBits).bytes = v % 2 ^ optBits.toNat ∧
    (importUint w v optBits).bytes.length = (optBits.toNat + 7) / 8 ∧
    (importUint w v optBits).bits = optBits.toNat := by
  rw [importUint_override w v h]
  refine ⟨valOf_toBytesLE_of_lt (Nat.lt_of_lt_of_le (Nat.mod_lt _ (Nat.two_pow_pos _)) ?_),
    toBytesLE_length _ _, rfl⟩
  exact Nat.pow_le_pow_right (by decide) (by omega)

/-- … `ExportUint64` returns it … -/
theorem exportUint64_importUint (w v : Nat) (optBits : Int) (hob : optBits ≤ 0) (hv : v < 2 ^ w)
    (hw : w % 8 = 0) (h64 : w ≤ 64) : exportUint64 (importUint w v optBits) = some v :=
  BMV.Numbers.exportUint64_importUint hob hv hw h64

/-- … and a `uint8/16/32` comes back with the same value but 64 bits
    (the listed finding `C08-unsigned-sized-width-lost`) … -/
theorem import_export_importUint_value (w v : Nat) (optBits : Int) (hob : optBits ≤ 0) (hv : v < 2 ^ w)
    (hw : w % 8 = 0) (h64 : w ≤ 64) :
    (exportString (importUint w v optBits)).bind importString = some ⟨toBytesLE 8 v, 64, .unsigned⟩ := by
  have hval := valOf_importUint hob hv hw
  rw [importUint_native w v hob] at hval ⊢
  have h := unsigned_reimport_is_64 ⟨toBytesLE (w / 8) v, w, .unsigned⟩ rfl (bytesOK_toBytesLE _ _)
    (by rw [toBytesLE_length]; omega)
  rwa [hval] at h

/-- … so that a `uint64` round-trips exactly through the text form -/
theorem import_export_importUint64 (v : Nat) (hv : v < 2 ^ 64) :
    (exportString (importUint 64 v 0)).bind importString = some (importUint 64 v 0) :=
  import_export_importUint_value 64 v 0 (Int.le_refl 0) hv rfl (Nat.le_refl 64)

/-- the width field: `optionalBits` overrides only when positive; 0 and the negative 'any size'
    sentinel (`GetSize() = -1` of unsigned / signed / hex / bin, which the simulator's show path passes)
    keep the native width of the Go value -/
theorem importUint_bits_sentinel (w v : Nat) (optBits : Int) (h : optBits ≤ 0) :
    (importUint w v optBits).bits = w := BMV.Numbers.importUint_bits_sentinel w v optBits h

theorem importUint_bits_override (w v : Nat) (optBits : Int) (h : 0 < optBits) :
    (importUint w v optBits).bits = optBits.toNat := BMV.Numbers.importUint_bits_override w v optBits h

/-- the simulator's show path `ImportUint(v, t.GetSize())` + `CastType(t)` + `ExportString` for the
    any-size types bin and hex: the text round-trips (value, width, type) -/
theorem import_export_show_bin (w v : Nat) (hv : v < 2 ^ w) (hw : w % 8 = 0) (hpos : 8 ≤ w) (h64 : w ≤ 64) :
    (exportString (castType (importUint w v (-1)) .bin)).bind importString
      = some (castType (importUint w v (-1)) .bin) :=
  import_export_bin _ (show_bin_wf hv hw hpos h64)

theorem import_export_show_hex (w v : Nat) (hv : v < 2 ^ w) (hw : w % 8 = 0) (hpos : 8 ≤ w) (h64 : w ≤ 64) :
    ∃ v', (exportString (castType (importUint w v (-1)) .hex)).bind importString = some v' ∧
      v'.same (castType (importUint w v (-1)) .hex) :=
  import_export_hex _ (show_hex_wf hv hw hpos h64)

/-! ### the export option `OmitPrefix` (the only field of `BMNumberConfig`; `bmnumbers -omit-prefix`) -/

/-- dropping the prefix of `prefix ++ rest` returns `rest` (for a `rest` without the prefix letter) -/
theorem omitPrefix_prefix (t : NType) (rest : List Nat) (h : ∀ c ∈ rest, c ≠ prefixLetter t) :
    omitPrefix t (showPrefix t ++ rest) = rest :=
  (removeAll2_prefix 48 _ rest).trans (removeAll2_clean _ _ _ h)

/-- bin / hex: putting the prefix back in front of the `OmitPrefix` text gives the full text again,
    so the round trips `import_export_bin` / `import_export_hex` carry over to the option -/
theorem omit_prefix_readd_bin (v : BMNumber) (h : v.ty = .bin) :
    (exportStringOmit v).map (showPrefix .bin ++ ·) = exportString v := by
  have e : exportString v = some (showPrefix .bin ++ ([60] ++ digits 10 v.bits ++ [62] ++ digits 2 (valOf v.bytes))) := by
    rw [exportString, h]; rfl
  simp only [exportStringOmit, e, Option.map_some, h,
    omitPrefix_prefix .bin _ (sized_text_clean (by decide) (dec_digits _) (bin_digits _))]

theorem omit_prefix_readd_hex (v : BMNumber) (h : v.ty = .hex) :
    (exportStringOmit v).map (showPrefix .hex ++ ·) = exportString v := by
  have e : exportString v = some (showPrefix .hex ++ ([60] ++ digits 10 v.bits ++ [62] ++ digits 16 (valOf v.bytes))) := by
    rw [exportString, h]; rfl
  simp only [exportStringOmit, e, Option.map_some, h,
    omitPrefix_prefix .hex _ (sized_text_clean (by decide) (dec_digits _) (hex_digits _))]

/-- unsigned: the text has no prefix, the option changes nothing, and `0u` ++ text imports the same -/
theorem omit_prefix_unsigned (v : BMNumber) (h : v.ty = .unsigned) : exportStringOmit v = exportString v := by
  have hclean : ∀ c ∈ digits 10 (valOf v.bytes), c ≠ prefixLetter .unsigned := fun c hc heq =>
    absurd (mem_of_nonEmptyAll (dec_digits _) c hc) (by rw [heq]; decide)
  unfold exportStringOmit exportString
  rw [h]
  dsimp only
  split
  · rfl
  · exact congrArg some (removeAll2_clean _ _ _ hclean)

theorem omit_prefix_readd_unsigned (n : Nat) :
    importString (showPrefix .unsigned ++ digits 10 n) = importString (digits 10 n) :=
  congrArg importLit ((unsignedTail_digits (dec_digits n)).trans (classify_digits (dec_digits n)).symm)

/-- `ExportBinaryNBits(n)` returns exactly `n` digits whenever it succeeds … -/
theorem exportBinaryNBits_width (v : BMNumber) (n : Nat) (s : List Nat)
    (h : exportBinaryNBits v n = some s) : s.length = n := by
  simp only [exportBinaryNBits] at h
  split at h
  · cases h
  · cases h
    rw [List.length_append, zeros_length]
    omega

/-- … and it fails exactly when the value needs more than `n` binary digits -/
theorem exportBinaryNBits_fails_iff (v : BMNumber) (n : Nat) :
    exportBinaryNBits v n = none ↔ n < (binRaw v).length := by
  simp only [exportBinaryNBits]
  split <;> simp [*]

/-- `ExportVerilogBinary` prints exactly `bits` digits for a value that fits its width -/
theorem exportVerilogBinary_width (v : BMNumber) (hpos : 1 ≤ v.bits) (hfit : valOf v.bytes < 2 ^ v.bits) :
    (verilogDigits v).length = v.bits := by
  have : (binRaw v).length ≤ v.bits := digits_length_le (by decide) hfit hpos
  simp only [verilogDigits, List.length_append, zeros_length]
  omega

/-- the digits printed by the binary exports denote the value -/
theorem exportBinary_value (v : BMNumber) : ofDigits 2 (exportBinary false v) = valOf v.bytes :=
  ofDigits_digits (by decide) (by decide) _

/-- sized notations give exactly the stated width (and, for `0u<n>`/`0d<n>`, a value that fits it) -/
theorem sized_unsigned_width (sz ds : List Nat) (v : BMNumber)
    (h : importLit (.unsignedSized sz ds) = some v) :
    atoi sz = some v.bits ∧ 1 ≤ v.bits ∧ v.bits ≤ 64 ∧ valOf v.bytes < 2 ^ v.bits := by
  simp only [importLit] at h
  split at h
  · cases h
  next size hs =>
    -- the three refusals: width 0 or above 64, value ≥ 2^64, value ≥ 2^size
    split at h
    · cases h
    next h0 =>
      split at h
      · cases h
      next h64 =>
        split at h
        · cases h
        next hfit =>
          cases h
          simp only [Bool.or_eq_true, decide_eq_true_eq, not_or, Nat.not_lt] at h0
          simp only [Bool.and_eq_true, decide_eq_true_eq, not_and, Nat.not_le] at hfit
          refine ⟨hs, Nat.pos_of_ne_zero h0.1, h0.2, ?_⟩
          show valOf (toBytesLE ((size + 7) / 8) (ofDigits 10 ds)) < 2 ^ size
          rw [valOf_toBytesLE]
          refine Nat.lt_of_le_of_lt (Nat.mod_le _ _) ?_
          rcases Nat.lt_or_ge size 64 with hlt | hge
          · exact hfit hlt
          · obtain rfl : size = 64 := Nat.le_antisymm h0.2 hge
            exact Nat.not_le.mp h64

theorem sized_bin_width (sz ds : List Nat) (v : BMNumber) (h : importLit (.binSized sz ds) = some v) :
    atoi sz = some v.bits := by
  simp only [importLit] at h
  split at h
  · cases h
  next size hs =>
    split at h
    · cases h
    · cases h; exact hs

theorem sized_hex_width (sz ds : List Nat) (v : BMNumber) (h : importLit (.hexSized sz ds) = some v) :
    atoi sz = some v.bits := by
  simp only [importLit] at h
  split at h
  · cases h
  next size hs =>
    split at h
    · cases h
    · split at h
      · cases h
      · cases h; exact hs

/-! non-vacuity: concrete well-formed values of every type, and concrete runs of the model -/
example : WFBin ⟨[5], 5, .bin⟩ :=
  ⟨rfl, by intro b hb; simp at hb; omega, by decide, by decide, by decide, by decide⟩
example : WFHex ⟨[1, 9], 16, .hex⟩ :=
  ⟨rfl, by intro b hb; simp at hb; omega, by decide, by decide, by decide, by decide⟩
example : WFU64 ⟨[56, 0, 0, 0, 0, 0, 0, 0], 64, .unsigned⟩ :=
  ⟨rfl, by intro b hb; simp at hb; omega, rfl, rfl⟩
example : WFS64 ⟨[255, 255, 255, 255, 255, 255, 255, 255], 64, .signed⟩ :=
  ⟨rfl, by intro b hb; simp at hb; omega, rfl, rfl⟩
example : importUint 64 0x0102030405060708 0 = ⟨[8, 7, 6, 5, 4, 3, 2, 1], 64, .unsigned⟩ := by decide +kernel
example : exportString (importUint 64 0x10000000000 0) = some (ofString "1099511627776") := by decide +kernel
example : exportUint64 (importUint 16 0xBEEF 0) = some 0xBEEF := by decide +kernel
example : exportString (castType (importUint 16 0x2a5 (-1)) .hex) = some (ofString "0x<16>2a5") := by decide +kernel
example : exportVerilogBinary (castType (importUint 16 0x2a5 (-1)) .bin) = ofString "16'b0000001010100101" := by
  decide +kernel
example : exportStringOmit ⟨[5], 5, .bin⟩ = some (ofString "<5>101") := by
  simp [exportStringOmit, exportString, exportBinary, binRaw, omitPrefix, prefixLetter, removeAll2, digits,
    digitsAux, digitChar, valOf, ofString]
example : importBytes [1, 2] 16 = ⟨[2, 1], 16, .unsigned⟩ := by decide +kernel
example : importString (ofString "0b<5>101") = some ⟨[5], 5, .bin⟩ := by decide +kernel
example : exportString ⟨[5], 5, .bin⟩ = some (ofString "0b<5>101") := by decide +kernel
example : importString (ofString "0x901") = some ⟨[1, 9], 16, .hex⟩ := by decide +kernel
example : exportString ⟨[1, 9], 16, .hex⟩ = some (ofString "0x<16>901") := by decide +kernel
example : importString (ofString "0u<8>255") = some ⟨[255], 8, .unsigned⟩ := by decide +kernel
example : importString (ofString "0u<8>256") = none := by decide +kernel
example : exportStringSpec ⟨[255, 255, 255, 255, 255, 255, 255, 255], 64, .signed⟩ = some (ofString "0s-1") := by
  decide +kernel
example : exportStringSpec ⟨[255], 8, .signed⟩ = some (ofString "0s-1") := by decide +kernel
example : exportStringSpec ⟨[127], 8, .signed⟩ = some (ofString "0s127") := by decide +kernel
example : importUint 8 0xAB 32 = ⟨[0xAB, 0, 0, 0], 32, .unsigned⟩ := by decide +kernel
example : importUint 64 0x0102030405060708 12 = ⟨[8, 7], 12, .unsigned⟩ := by decide +kernel
example : exportBinaryNBits ⟨[5], 5, .bin⟩ 8 = some (ofString "00000101") := by decide +kernel
example : exportBinaryNBits ⟨[5], 5, .bin⟩ 2 = none := by decide +kernel
example : exportVerilogBinary ⟨[5], 5, .bin⟩ = ofString "5'b00101" := by decide +kernel

end BMV.Props.C08
