/-
  C04 — A bond delivers every value exactly once, in order, to every consumer.

  Property theorems only.  Models: BMV/Hs.lean — the valid/received handshake of one bond with k
  consumers as two transition systems, `Hs.Isa` (Go simulator: R2owa/I2rw.Simulate, the deferred
  waitRecvI2rw, the one-tick data movement of bondmachine.VM.Step) and `Hs.Rtl` (generated hardware:
  waitsm / oK_val / _auxoK / iK_recv processes, combinational wiring), under an ADVERSARIAL schedule:
  in every tick every agent is either busy with arbitrary other instructions for an arbitrary time
  or at its IO instruction on this bond.  Invariant proofs: BMV/Proofs/Hs.lean; the liveness
  argument: BMV/Proofs/HsLive.lean.

  The theorems hold for EVERY fan-out k, EVERY schedule (relative speeds, stalls, instruction
  mixes) and EVERY length of run, in both worlds.  They are about the protocol as repaired by the
  `fix:` commit 18c0f8e (see `old_protocol_*` below for what the pinned code did).
-/
import BMV.Proofs.Hs
import BMV.Proofs.HsLive
namespace BMV.Props.C04
open BMV.Hs

/-- Exactly once, in order (simulator): the values whose write has completed are 0,1,…,n-1 in
    order; every consumer holds exactly those, or — while the producer is still holding valid —
    those plus the value on offer.  Nothing is lost, duplicated or reordered, and no consumer is
    more than the one in-flight value away from the producer. -/
theorem exactly_once_isa (k : Nat) (schs : List Sched) :
    let s := Isa.run (Isa.init k) schs
    s.sent = List.range s.next ∧
    ∀ c ∈ s.cs, c.got = s.sent ∨ (s.valid = true ∧ c.got = s.sent ++ [s.next]) :=
  Isa.got_of_inv (Isa.inv_run k schs)

/-- The producer does not get past its write before every consumer has the value: whenever it is
    not holding valid, all consumers hold exactly everything written. -/
theorem producer_waits_isa (k : Nat) (schs : List Sched) :
    let s := Isa.run (Isa.init k) schs
    s.valid = false → ∀ c ∈ s.cs, c.got = s.sent :=
  fun hv c hc => ((exactly_once_isa k schs).2 c hc).resolve_right fun h => nomatch hv.symm.trans h.1

/-- A consumer does not get past its read without having captured a value: it leaves the IO
    instruction only in a tick in which valid is high, and then its stream grows by that datum. -/
theorem consumer_waits_isa (v : Bool) (d : Nat) (w : Bool) (c : Isa.Cons)
    (hat : (c.atIO || w) = true) (hleft : (Isa.cstep v d w c).atIO = false) :
    v = true ∧ (Isa.cstep v d w c).got = c.got ++ [d] := by
  obtain ⟨a, r, df, g⟩ := c
  cases v <;> cases a <;> cases r <;> cases df <;> cases w <;>
    first | exact ⟨rfl, rfl⟩ | contradiction

/-- Exactly once, in order (hardware). -/
theorem exactly_once_rtl (k : Nat) (schs : List Sched) :
    let s := Rtl.run (Rtl.init k) schs
    s.sent = List.range s.next ∧
    ∀ c ∈ s.cs, c.got = s.sent ∨ ((s.waitsm && s.oVal) = true ∧ c.got = s.sent ++ [s.next]) :=
  Rtl.got_of_inv (Rtl.inv_run k schs)

theorem producer_waits_rtl (k : Nat) (schs : List Sched) :
    let s := Rtl.run (Rtl.init k) schs
    (s.waitsm && s.oVal) = false → ∀ c ∈ s.cs, c.got = s.sent :=
  fun ho c hc => ((exactly_once_rtl k schs).2 c hc).resolve_right fun h => nomatch ho.symm.trans h.1

theorem consumer_waits_rtl (v : Bool) (d : Nat) (w : Bool) (c : Rtl.Cons)
    (hat : (c.atIO || w) = true) (hleft : (Rtl.cstep v d w c).atIO = false) :
    v = true ∧ (Rtl.cstep v d w c).got = c.got ++ [d] := by
  obtain ⟨a, r, g⟩ := c
  cases v <;> cases a <;> cases r <;> cases w <;> first | exact ⟨rfl, rfl⟩ | contradiction

/-- both worlds deliver the same thing: a consumer's stream is always an initial segment of
    0,1,2,… (consequence of the two theorems above, stated once for the record) -/
theorem streams_are_prefixes (k : Nat) (schs : List Sched) :
    (∀ c ∈ (Isa.run (Isa.init k) schs).cs, c.got = List.range c.got.length) ∧
    (∀ c ∈ (Rtl.run (Rtl.init k) schs).cs, c.got = List.range c.got.length) :=
  ⟨fun c hc => got_eq_range (exactly_once_isa k schs).1 ((exactly_once_isa k schs).2 c hc),
   fun c hc => got_eq_range (exactly_once_rtl k schs).1 ((exactly_once_rtl k schs).2 c hc)⟩

/-! ### the property's own wording

`offered` = the values the producer has put on the bond so far (the completed writes plus the one
it is holding valid for); every consumer's received stream is a prefix of it and at most one value
behind — `forall i : received(c_i) is a prefix of sent and |sent| - |received(c_i)| <= 1`. -/

def Isa.offered (s : Isa.St) : List Nat := if s.valid then s.sent ++ [s.next] else s.sent
def Rtl.offered (s : Rtl.St) : List Nat := if (s.waitsm && s.oVal) then s.sent ++ [s.next] else s.sent

theorem quantifier_isa (k : Nat) (schs : List Sched) :
    let s := Isa.run (Isa.init k) schs
    ∀ c ∈ s.cs, c.got <+: Isa.offered s ∧ (Isa.offered s).length - c.got.length ≤ 1 :=
  fun c hc => got_prefix_offered ((exactly_once_isa k schs).2 c hc)

theorem quantifier_rtl (k : Nat) (schs : List Sched) :
    let s := Rtl.run (Rtl.init k) schs
    ∀ c ∈ s.cs, c.got <+: Rtl.offered s ∧ (Rtl.offered s).length - c.got.length ≤ 1 :=
  fun c hc => got_prefix_offered ((exactly_once_rtl k schs).2 c hc)

/-! ### liveness: no deadlock under any fair schedule

`Fair k σ`: in the infinite schedule σ the producer and each of the k consumers reach their IO
instruction on this bond again and again; how long each stays away (arbitrary other instructions,
stalls, delays) and in which order they come back is arbitrary.  Then every value is eventually
written and eventually held by every consumer — in the simulator and in the generated hardware.
(With no consumer bonded to the output, `k = 0`, the producer waits for ever by design: the AND of
no recv line is taken as low.) -/

theorem no_deadlock_isa (k : Nat) (hk : 0 < k) (σ : Nat → Sched) (hf : Fair k σ) (n : Nat) :
    ∃ t, n ≤ (Isa.runF σ (Isa.init k) t).next ∧
      ∀ c ∈ (Isa.runF σ (Isa.init k) t).cs, n ≤ c.got.length := by
  have hlen : (Isa.init k).cs.length = k := List.length_replicate
  obtain ⟨t, ht⟩ := unbounded_of_progress
    (Isa.progress σ (Isa.init k) (Isa.inv_init k) (by rw [hlen]; exact hk) (by rw [hlen]; exact hf)) n
  have hg := Isa.got_of_inv (Isa.runF_inv σ (Isa.init k) (Isa.inv_init k) t)
  exact ⟨t, ht, fun c hc => Nat.le_trans ht (next_le_got hg.1 (hg.2 c hc))⟩

theorem no_deadlock_rtl (k : Nat) (hk : 0 < k) (σ : Nat → Sched) (hf : Fair k σ) (n : Nat) :
    ∃ t, n ≤ (Rtl.runF σ (Rtl.init k) t).next ∧
      ∀ c ∈ (Rtl.runF σ (Rtl.init k) t).cs, n ≤ c.got.length := by
  have hlen : (Rtl.init k).cs.length = k := List.length_replicate
  obtain ⟨t, ht⟩ := unbounded_of_progress
    (Rtl.progress σ (Rtl.init k) (Rtl.inv_init k) (by rw [hlen]; exact hk) (by rw [hlen]; exact hf)) n
  have hg := Rtl.got_of_inv (Rtl.runF_inv σ (Rtl.init k) (Rtl.inv_init k) t)
  exact ⟨t, ht, fun c hc => Nat.le_trans ht (next_le_got hg.1 (hg.2 c hc))⟩

/-- the infinite runs of the liveness theorems are the finite runs of the safety theorems -/
theorem runF_is_run (σ : Nat → Sched) (k t : Nat) :
    Isa.runF σ (Isa.init k) t = Isa.run (Isa.init k) ((List.range t).map σ) ∧
    Rtl.runF σ (Rtl.init k) t = Rtl.run (Rtl.init k) ((List.range t).map σ) :=
  ⟨Isa.runF_eq_run _ _ _, Rtl.runF_eq_run _ _ _⟩

/-- the premise is satisfiable: e.g. everybody always eager; or a producer that shows up every
    third tick with consumers that alternate -/
example (k : Nat) : Fair k (fun _ => ⟨true, List.replicate k true⟩) :=
  ⟨fun t => ⟨t, Nat.le_refl _, rfl⟩, fun i hi t => ⟨t, Nat.le_refl _, by simp [hi]⟩⟩
example : Fair 2 (fun t => ⟨t % 3 == 0, [t % 2 == 0, t % 2 == 1]⟩) := by
  refine ⟨fun t => ⟨3 * t, by omega, by simp⟩, fun i hi t => ?_⟩
  rcases (by omega : i = 0 ∨ i = 1) with rfl | rfl
  · exact ⟨2 * t, by omega, by simp⟩
  · exact ⟨2 * t + 1, by omega, by simp⟩
/-- and needed: with an unfair schedule (the consumer never comes) nothing is ever written -/
example : ∀ n ≤ 20, (Isa.run (Isa.init 1) (List.replicate n ⟨true, [false]⟩)).next = 0 := by decide

/-! ### the protocol of the pinned code (before fix 18c0f8e) violates the property -/

/-- old `I2rw.Simulate`: takes the value whenever valid is high, even if recv of the previous
    transfer is still up -/
def oldCstep (validIn : Bool) (dataIn : Nat) (want : Bool) (c : Isa.Cons) : Isa.Cons :=
  let c1 : Isa.Cons := if c.deferred && !validIn then { c with recv := false, deferred := false } else c
  if c1.atIO || want then
    if validIn then { c1 with got := c1.got ++ [dataIn], recv := true, deferred := true, atIO := false }
    else { c1 with recv := false, atIO := true }
  else c1

/-- old `R2owa.Simulate`: raises valid and completes at once on a stale recv -/
def oldStep (s : Isa.St) (sch : Sched) : Isa.St :=
  let recvIn := !s.cs.isEmpty && s.cs.all (·.recv)
  let cs' := (s.cs.zip (sch.c ++ List.replicate s.cs.length false)).map
    fun (c, w) => oldCstep s.valid s.data w c
  if s.atIO || sch.p then
    if recvIn then
      { s with atIO := false, valid := false, data := s.next, sent := s.sent ++ [s.next], next := s.next + 1, cs := cs' }
    else { s with atIO := true, valid := true, data := s.next, cs := cs' }
  else { s with cs := cs' }

/-- a consumer that reads the same input in two consecutive instructions gets value 0 twice -/
theorem old_protocol_duplicates :
    ((List.replicate 3 ({ p := true, c := [true] } : Sched)).foldl oldStep (Isa.init 1)).cs.map (·.got) = [[0, 0]] := by
  decide

/-- a producer that writes the same output in two consecutive instructions loses value 1: it is
    recorded as sent, but the (slower) consumer never sees it -/
theorem old_protocol_loses :
    let schs : List Sched := [⟨true, [true]⟩, ⟨true, [true]⟩, ⟨true, [false]⟩, ⟨true, [false]⟩, ⟨false, [false]⟩, ⟨false, [false]⟩]
    let s := schs.foldl oldStep (Isa.init 1)
    s.sent = [0, 1] ∧ s.valid = false ∧ s.cs.map (·.got) = [[0]] := by
  decide

/-! ### non-vacuity -/

/-- with everybody always eager values do flow (a transfer takes 4 ticks in the simulator, 6 clocks
    in hardware) through a fan-out of two -/
example : (Isa.run (Isa.init 2) (List.replicate 12 ⟨true, [true, true]⟩)).sent = [0, 1, 2] := by decide
example : (Rtl.run (Rtl.init 2) (List.replicate 14 ⟨true, [true, true]⟩)).sent = [0, 1] := by decide
example : (Rtl.run (Rtl.init 2) (List.replicate 14 ⟨true, [true, true]⟩)).cs.map (·.got) = [[0, 1], [0, 1]] := by decide

end BMV.Props.C04
