/-
  C03 — Instruction encoding is a lossless, fixed-width, range-checked code.

  Property theorems only (model: BMV/Bits.lean, BMV/Arch.lean (layout table), BMV/Encode.lean;
  lemmas: BMV/Proofs/Bits.lean, BMV/Proofs/Encode.lean).  The model is hand written; it is tied to
  pkg/procbuilder (Arch.Assembler_process_line, every Opcode.Assembler / Disassembler /
  Op_get_instruction_len, Machine.Disassembler) by the correspondence of tools/props/c03.py.

  All theorems hold for EVERY architecture (any R, N, M, L, O, Rsize, mode, WordSize, opcode list)
  and every instruction over a modelled opcode: no well-formedness hypothesis is needed, because the
  assembler's final width check is what carries the argument.
-/
import BMV.Proofs.Encode
namespace BMV.Props.C03
open BMV BMV.Bits BMV.Encode

/-- fixed width: whatever the assembler returns has exactly the architecture's word width -/
theorem asm_width (a : Arch) (i : Instr) (w : Bits) (h : asm a i = .ok w) : w.length = a.maxWord := by
  obtain ⟨_, _, _, _, _, _, _, _, _, hl⟩ := asm_ok_inv h
  exact hl

/-- lossless: the disassembly of an assembled word is the same instruction with the same operands
    (`normalise` only drops the tokens that operand-less opcodes never look at) -/
theorem disasm_asm (a : Arch) (i : Instr) (w : Bits) (h : asm a i = .ok w) :
    disasm a w = some (normalise i) := by
  obtain ⟨idx, fs, body, hidx, hlay, hbody, hop, hbl, rfl, _⟩ := asm_ok_inv h
  simp only [disasm, List.append_assoc, List.take_left' hop, List.drop_left' hop, getId_encField,
    findIdx_get hidx, hlay, decOperands_encOperands hbody hbl]
  rfl

/-- and back: re-assembling the disassembly of any word the assembler can produce gives that word -/
theorem asm_disasm (a : Arch) (w : Bits) (h : ∃ i, asm a i = .ok w) :
    ∃ i', disasm a w = some i' ∧ asm a i' = .ok w := by
  obtain ⟨i, hi⟩ := h
  exact ⟨normalise i, disasm_asm a i w hi, by rw [asm_normalise]; exact hi⟩

/-- range check: in every accepted instruction every operand fits its field — a register index is
    below 2^R, a port index below N / M, a number below 2^(field width).  Contrapositive: an
    operand that does not fit makes `asm` fail; it is never truncated and never lengthens the word
    (`asm_width`). -/
theorem asm_operands_fit (a : Arch) (i : Instr) (w : Bits) (h : asm a i = .ok w) :
    ∃ fs, layout i.op = some fs ∧ fs.length = (normalise i).args.length ∧
      ∀ (j : Nat) f x, fs[j]? = some f → (normalise i).args[j]? = some x →
        opVal x < 2 ^ a.width f ∧ 1 ≤ a.width f ∧
        (match f, x with
          | .reg, .reg _ => True
          | .inp, .inp k => k < a.n
          | .out, .out k => k < a.m
          | .reg, _ | .inp, _ | .out, _ => False
          | .so kind short, .so s k => s = short ∧ k < a.sharedNum kind
          | .so _ _, _ => False
          | _, .num _ => True
          | _, _ => False) := by
  obtain ⟨_, fs, body, _, hlay, hbody, _, hbl, _, _⟩ := asm_ok_inv h
  refine ⟨fs, hlay, encOperands_length hbody, fun j f x hf hx => ?_⟩
  obtain ⟨b, henc, hb⟩ := encOperands_exact_get hbody hbl j f x hf hx
  obtain ⟨rfl, _, hrange⟩ := encOperand_some henc
  obtain ⟨hw, hfit⟩ := encField_exact_iff.mp hb
  exact ⟨hfit, hw, hrange⟩

/-- concretely for numbers: an immediate / address that needs more bits than its field is refused -/
theorem asm_rejects_overflow (a : Arch) (op : String) (pre post : List Operand) (n : Nat)
    (fs : List FieldKind) (f : FieldKind) (hlay : layout op = some fs) (hlen : lenientArity op = false)
    (hf : fs[pre.length]? = some f) (hbig : ¬ n < 2 ^ a.width f) :
    ∀ w, asm a ⟨op, pre ++ .num n :: post⟩ ≠ .ok w := by
  intro w h
  obtain ⟨fs', hlay', _, hall⟩ := asm_operands_fit a _ w h
  simp only at hlay'
  rw [hlay] at hlay'; cases hlay'
  exact hbig (hall pre.length f (.num n) hf (by simp [normalise, hlen])).1

/-- a register index beyond the register file, a port index beyond N / M, or the name of a shared
    object the processor is not attached to (wrong kind prefix, index ≥ the number of such objects), is refused -/
theorem asm_rejects_bad_index (a : Arch) (i : Instr) (w : Bits) (h : asm a i = .ok w)
    (j : Nat) (fs : List FieldKind) (hlay : layout i.op = some fs) :
    (∀ k, fs[j]? = some .reg → (normalise i).args[j]? = some (.reg k) → k < 2 ^ a.r) ∧
    (∀ k, fs[j]? = some .inp → (normalise i).args[j]? = some (.inp k) → k < a.n) ∧
    (∀ k, fs[j]? = some .out → (normalise i).args[j]? = some (.out k) → k < a.m) ∧
    (∀ kind short s k, fs[j]? = some (.so kind short) → (normalise i).args[j]? = some (.so s k) →
      s = short ∧ k < a.sharedNum kind) := by
  obtain ⟨fs', hlay', _, hall⟩ := asm_operands_fit a i w h
  rw [hlay] at hlay'; cases hlay'
  exact ⟨fun _ hf hx => (hall j _ _ hf hx).1, fun _ hf hx => (hall j _ _ hf hx).2.2,
    fun _ hf hx => (hall j _ _ hf hx).2.2, fun _ _ _ _ hf hx => (hall j _ _ hf hx).2.2⟩

/-- the word is wide enough for every opcode of the architecture (automatic word size) -/
theorem maxWord_ge_len (a : Arch) (h : a.wordSize = 0) (op : String) (hop : op ∈ a.ops) :
    a.instrLen op ≤ a.maxWord :=
  instrLen_le_maxWord a h hop

/-- the opcode index written into the word is the opcode's position in the machine's opcode
    list, it is what `disasm` (= `Decode_opcode`) reads back, and it is below `2^opBits` -/
theorem opcode_numbering (a : Arch) (i : Instr) (w : Bits) (h : asm a i = .ok w) :
    ∃ idx, a.ops[idx]? = some i.op ∧ getId (w.take a.opBits) = idx ∧ idx < 2 ^ a.opBits := by
  obtain ⟨idx, fs, body, hidx, _, _, hop, _, rfl, _⟩ := asm_ok_inv h
  refine ⟨idx, findIdx_get hidx, ?_, (encField_exact_iff.mp hop).2⟩
  rw [List.append_assoc, List.take_left' hop, getId_encField]

/-! ### non-vacuity -/

def demoArch : Arch :=
  { rsize := 8, r := 2, n := 2, m := 1, l := 0, o := 3, ops := ["add", "i2r", "j", "r2o", "rset"] }

example : (asm demoArch ⟨"rset", [.reg 3, .num 255]⟩).toOption = some (ofString01 "1001111111111") := by decide +kernel
example : disasm demoArch (ofString01 "1001111111111") = some ⟨"rset", [.reg 3, .num 255]⟩ := by decide +kernel
example : (asm demoArch ⟨"rset", [.reg 3, .num 256]⟩).toOption = none := by decide +kernel
example : (asm demoArch ⟨"j", [.num 8]⟩).toOption = none := by decide +kernel
example : (asm demoArch ⟨"i2r", [.reg 0, .inp 2]⟩).toOption = none := by decide +kernel
example : demoArch.maxWord = 13 := by decide +kernel


/-- whole programs (`Arch.Assembler`): comment and blank lines produce no word and take no address;
    the k-th instruction line gives the k-th word, every word has exactly the architecture's width
    and disassembles to its own line, and the program fits the code memory of the execution mode -/
theorem asmProgram_spec (a : Arch) (lines : List (Option Instr)) (ws : List Bits)
    (h : asmProgram a lines = .ok ws) :
    ws.length = (lines.filterMap id).length ∧ ws.length ≤ codeCapacity a ∧
    ∀ p ∈ (lines.filterMap id).zip ws,
      asm a p.1 = .ok p.2 ∧ p.2.length = a.maxWord ∧ disasm a p.2 = some (normalise p.1) := by
  unfold asmProgram at h
  split at h
  · cases h
  · rename_i ws' hm
    split at h <;> cases h
    rename_i hcap
    obtain ⟨hl, hall⟩ := mapM_ok (asm a) _ _ hm
    exact ⟨hl, hcap, fun p hp => ⟨hall p hp, asm_width a p.1 p.2 (hall p hp), disasm_asm a p.1 p.2 (hall p hp)⟩⟩

/-- `Machine.Disassembler` on a whole assembled program gives back the source's instructions (in
    normal form), in order: no word's text depends on its neighbours. -/
theorem disasmProgram_asmProgram (a : Arch) (lines : List (Option Instr)) (ws : List Bits)
    (h : asmProgram a lines = .ok ws) :
    disasmProgram a ws = some ((lines.filterMap id).map normalise) := by
  obtain ⟨hl, _, hall⟩ := asmProgram_spec a lines ws h
  exact mapM_some_of_zip (disasm a) normalise _ ws hl (fun p hp => (hall p hp).2.2)

/-- one failing line fails the whole program (no partial ROM) -/
theorem asmProgram_fails (a : Arch) (lines : List (Option Instr)) (i : Instr) (e : AsmErr)
    (hi : some i ∈ lines) (he : asm a i = .error e) : ∃ e', asmProgram a lines = .error e' := by
  unfold asmProgram
  cases hm : (lines.filterMap id).mapM (asm a) with
  | error e' => exact ⟨e', rfl⟩
  | ok ws =>
    obtain ⟨w, hw⟩ := mapM_ok_mem hm (List.mem_filterMap.mpr ⟨some i, hi, rfl⟩)
    rw [he] at hw; cases hw


/-- a program with comment / blank lines: two words, at addresses 0 and 1 -/
example : (asmProgram demoArch [none, some ⟨"rset", [.reg 3, .num 255]⟩, none, none, some ⟨"j", [.num 0]⟩, none]).toOption.map
    (fun ws => (ws.length, ws.map List.length)) = some (2, [13, 13]) := by decide +kernel
/-- nine instructions do not fit a ROM of 2^3 words -/
example : (asmProgram demoArch (List.replicate 9 (some ⟨"j", [.num 0]⟩))).toOption = none := by decide +kernel
example : disasmProgram demoArch [ofString01 "1001111111111", ofString01 "0101010000000"] =
    some [⟨"rset", [.reg 3, .num 255]⟩, ⟨"j", [.num 5]⟩] := by decide +kernel


/-- shared-object operands: two queues need one index bit; `q1` is the second queue, `q2` and `st0` are refused -/
def demoArchSo : Arch :=
  { rsize := 8, r := 1, n := 0, m := 0, l := 0, o := 2, ops := ["q2r", "r2q", "rset"], shared := [("queue", 2)] }
example : (asm demoArchSo ⟨"r2q", [.reg 1, .so "q" 1]⟩).toOption = some (ofString01 "01110000000") := by decide +kernel
example : disasm demoArchSo (ofString01 "01110000000") = some ⟨"r2q", [.reg 1, .so "q" 1]⟩ := by decide +kernel
example : (asm demoArchSo ⟨"r2q", [.reg 1, .so "q" 2]⟩).toOption = none := by decide +kernel
example : (asm demoArchSo ⟨"r2q", [.reg 1, .so "st" 0]⟩).toOption = none := by decide +kernel

end BMV.Props.C03
