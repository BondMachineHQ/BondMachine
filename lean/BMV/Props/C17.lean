/-
  C17 — Finished simulations leave no workers behind.   (claimed level: PARTIAL)

  Statement (properties.jsonl): running a simulation to completion releases everything it started:
    forall n . forall sequences of n calls to SinglePipelineSimulate / Fitness_default :
      goroutines_after - goroutines_before <= c (independent of n).

  What is proved here is the *lifecycle logic* on the model BMV.Lifecycle (workers = loops blocked on
  a channel; the Go scheduler = the list of `Act`s, arbitrary): with an exit path no worker outlives
  the shutdown of its call under any schedule and the workers' own moves terminate; without an exit
  path every creation site grows by exactly the number of `go` statements executed.  Which of the two
  regimes the current tree is in is read from the regenerated table BMV/Gen/GoStmts.lean
  (`genCfg`, `genShut`), whose shape is tied to the model's table by `gostmts_match_sites`.
  That a real goroutine is live or gone is runtime truth: it is measured by the harness (goroutine
  profile per creation site) and compared with these counts on every run — that part is the
  "partial" residue.
-/
import BMV.Proofs.Lifecycle
import BMV.LifecycleGen
namespace BMV.Props.C17
open BMV.Lifecycle

/-! ### with an exit path -/

/-- `live_after_runs`, general form.  For every configuration, every start state and every schedule
    (any interleaving of spawns, steps, shutdowns and exits of any number of sequential or
    overlapping calls): once the workers have run as far as they can (`quiescent`), no worker of a
    site that has an exit path belongs to a call that was shut down. -/
theorem live_after_runs (cfg : Cfg) (s₀ : Sys) (as : List Act) (hq : quiescent cfg (run cfg s₀ as))
    (w : Worker) (hw : w ∈ (run cfg s₀ as).workers) (he : cfg.hasExit w.kind = true) :
    w.call ∉ (run cfg s₀ as).closed := by
  have := quiescent_closed cfg _ hq w hw he
  simpa using this

/-- `live_after_runs`, the property's own form: if every site has an exit path and every call that
    still has a worker has been shut down, then after any schedule the quiescent state has no live
    worker at all: live = live of the initial state = 0, independent of the number of calls. -/
theorem live_after_runs_all (cfg : Cfg) (hall : ∀ k, cfg.hasExit k = true) (as : List Act)
    (hshut : ∀ w ∈ (run cfg init as).workers, w.call ∈ (run cfg init as).closed)
    (hq : quiescent cfg (run cfg init as)) :
    live (run cfg init as) = live init := by
  have : (run cfg init as).workers = [] := List.eq_nil_iff_forall_not_mem.mpr fun w hw =>
    live_after_runs cfg init as hq w hw (hall _) (hshut w hw)
  simp only [live, this]; rfl

/-- worker-loop termination: under any scheduling of the workers' own moves (answer / exit), at most
    `measure` ≤ 2·live moves happen — so a quiescent state is always reached; no fairness needed -/
theorem workers_terminate (cfg : Cfg) (s : Sys) (is : List Act) (h : enabledRun cfg s is) :
    is.length ≤ 2 * live s := by
  have h1 := enabledRun_length cfg is s h
  have h2 := measure_le s.workers
  simp only [live]; omega

/-- after a shutdown the only move of an idle worker with an exit path is `exit`, and it is enabled
    (tokens are no longer delivered, it holds none) -/
theorem exit_only_after_shutdown (cfg : Cfg) (s : Sys) (i : Nat) (w : Worker)
    (hg : getAt s.workers i = some w) (he : cfg.hasExit w.kind = true)
    (hc : s.closed.contains w.call = true) (hb : w.busy = false) :
    enabled cfg s (.exit i) = true ∧ enabled cfg s (.token i) = false ∧ enabled cfg s (.answer i) = false := by
  have hc' : w.call ∈ s.closed := by simpa using hc
  simp [enabled, hg, he, hc', hb]

/-- the settle period of the harness reaches a quiescent state -/
theorem settle_is_quiescent (cfg : Cfg) (s : Sys) : quiescent cfg (settle cfg s) := by
  intro i
  simp only [enabled, settle, getAt_map_idle]
  cases hg : getAt (s.workers.filter fun w => !(cfg.hasExit w.kind && s.closed.contains w.call)) i with
  | none => exact ⟨rfl, rfl⟩
  | some w =>
    have hk := (List.mem_filter.mp (getAt_mem hg)).2
    simp only [Option.map_some, idle, Bool.not_false, Bool.true_and]
    exact ⟨trivial, (Bool.not_eq_true' _).mp hk⟩

/-- the call shape of `SinglePipelineSimulate` with the shutdown (launch, any number of ticks,
    shutdown): n sequential calls on any machine size leave exactly the initial number of workers -/
theorem live_after_seq_calls (cfg : Cfg) (hall : ∀ k, cfg.hasExit k = true) (P ticks c0 n : Nat) :
    live (seqBatch cfg P ticks true c0 n init) = live init := by
  suffices h : (seqBatch cfg P ticks true c0 n init).workers = [] by simp only [live, h]; rfl
  induction n with
  | zero => rfl
  | succ n ih =>
    simp only [seqBatch]
    exact simCall_settles_empty cfg hall _ P 0 ticks _ _ ih

/-! ### without an exit path (the pinned tree) -/

/-- a creation site without exit path holds, after any schedule whatsoever, exactly the workers it
    had plus one per `go` statement executed -/
theorem leak_without_exit_any_schedule (cfg : Cfg) (k : Kind) (hk : cfg.hasExit k = false)
    (s₀ : Sys) (as : List Act) :
    liveOf k (run cfg s₀ as) = liveOf k s₀ + spawnedOf k as :=
  (run_count cfg k as s₀).2 hk

/-- every creation site along a batch of sequential calls: it never holds more than it had plus what
    the calls started there, and exactly that when it has no exit path -/
theorem seq_calls_count (cfg : Cfg) (k : Kind) (P ticks c0 n : Nat) (shut : Bool) (s : Sys) :
    liveOf k (seqBatch cfg P ticks shut c0 n s) ≤ liveOf k s + n * spawnedOf k (launch 0 P 0) ∧
    (cfg.hasExit k = false →
      liveOf k (seqBatch cfg P ticks shut c0 n s) = liveOf k s + n * spawnedOf k (launch 0 P 0)) := by
  induction n with
  | zero => simp [seqBatch]
  | succ n ih =>
    simp only [seqBatch]
    generalize seqBatch cfg P ticks shut c0 n s = s' at ih ⊢
    generalize procIdx s'.workers.length P = idx
    have hr := run_count cfg k (simCall (c0 + n) P 0 ticks idx shut) s'
    have hs := settle_count cfg k (run cfg s' (simCall (c0 + n) P 0 ticks idx shut))
    have e : spawnedOf k (launch (c0 + n) P 0) = spawnedOf k (launch 0 P 0) := by
      rw [spawnedOf_launch, spawnedOf_launch]
    rw [spawnedOf_simCall, e] at hr
    rw [Nat.succ_mul]
    exact ⟨by omega, fun hk => by rw [hs.2 hk, hr.2 hk, ih.2 hk, Nat.add_assoc]⟩

/-- `leak_without_exit`: when `Processor_execute` and `EmuDriverDispatcher` have no exit path, n
    sequential simulations of a P-processor machine leave exactly n·P workers and n dispatchers
    behind — for every n, P, number of ticks, and whether or not a shutdown is attempted -/
theorem leak_without_exit (cfg : Cfg) (hp : cfg.proc = false) (hd : cfg.disp = false)
    (P ticks c0 n : Nat) (shut : Bool) (s : Sys) :
    liveOf .proc (seqBatch cfg P ticks shut c0 n s) = liveOf .proc s + n * P
    ∧ liveOf .disp (seqBatch cfg P ticks shut c0 n s) = liveOf .disp s + n := by
  have h1 := (seq_calls_count cfg .proc P ticks c0 n shut s).2 hp
  have h2 := (seq_calls_count cfg .disp P ticks c0 n shut s).2 hd
  simp only [spawnedOf_launch, reduceCtorEq, if_false, if_true, Nat.zero_add, Nat.add_zero,
    Nat.mul_one, Nat.mul_zero] at h1 h2
  exact ⟨h1, h2⟩

/-- the known-finding text as a theorem: on the pinned lifecycle the number of live goroutines after
    n calls from a fresh process is exactly n·(P+1) -/
theorem leak_without_exit_total (P ticks c0 n : Nat) (shut : Bool) :
    live (seqBatch pinned P ticks shut c0 n init) = n * (P + 1) := by
  have h := fun k => seq_calls_count pinned k P ticks c0 n shut init
  have hp := (h .proc).2 rfl
  have hd := (h .disp).2 rfl
  have he := (h .emu).1
  have hr := (h .req).1
  have hl := (h .pool).1
  have z : ∀ k, count k init.workers = 0 := fun _ => rfl
  simp only [spawnedOf_launch, z, reduceCtorEq, if_false, if_true, Nat.zero_add, Nat.add_zero,
    Nat.mul_one, Nat.mul_zero, liveOf] at hp hd he hr hl
  rw [live, length_eq_counts, Nat.mul_add, Nat.mul_one]; omega

/-- overlapping calls leak the same: k simulations launched together, stepped, and (not) shut down -/
theorem leak_without_exit_overlapping (cfg : Cfg) (hp : cfg.proc = false) (hd : cfg.disp = false)
    (P ticks c0 k : Nat) (shut : Bool) (s : Sys) :
    liveOf .proc (parBatch cfg P ticks shut c0 k s) = liveOf .proc s + spawnedOf .proc (parActs P ticks shut c0 k s.workers.length)
    ∧ liveOf .disp (parBatch cfg P ticks shut c0 k s) = liveOf .disp s + spawnedOf .disp (parActs P ticks shut c0 k s.workers.length) := by
  simp only [parBatch]
  rw [(settle_count cfg .proc _).2 hp, (settle_count cfg .disp _).2 hd,
    (run_count cfg .proc _ _).2 hp, (run_count cfg .disp _ _).2 hd]
  exact ⟨rfl, rfl⟩

/-! ### regenerated obligations (BMV/Gen/GoStmts.lean is rewritten from the Go source on every run) -/

/-- the `go` statements of the anchored files are exactly the model's creation sites: a new `go`
    statement, a removed one or a renamed worker function breaks this obligation -/
theorem gostmts_match_sites :
    BMV.Gen.GoStmts.goStmts.map (fun g => (g.file, g.encl, g.callee))
      = sites.map (fun s => (s.file, s.encl, s.callee)) := by decide +kernel

/-- the functions that launch a VM are exactly the ones the model knows as call owners -/
theorem launchers_match :
    BMV.Gen.GoStmts.launchers.map (fun (f, n, _) => (f, n)) = launcherNames := by decide +kernel

/-- the current tree is in one of the two regimes the theorems above cover for the simulator's
    workers: both `Processor_execute` and `EmuDriverDispatcher` have an exit path and every launching
    function shuts its VM down (then `live_after_seq_calls`/`live_after_runs_all` apply), or neither
    has one (then `leak_without_exit` applies).  A half-repaired tree breaks this obligation. -/
theorem tree_regime :
    (genCfg.proc = true ∧ genCfg.disp = true ∧ genCfg.req = true ∧ genCfg.pool = true
        ∧ launcherNames.all (fun (_, n) => genShut n) = true)
    ∨ (genCfg.proc = false ∧ genCfg.disp = false ∧ genCfg.req = true ∧ genCfg.pool = true
        ∧ launcherNames.all (fun (_, n) => !genShut n) = true) := by decide +kernel

/-! ### non-vacuity -/

/-- a concrete overlapping schedule of two calls (P = 2 and P = 1) with every site exiting: the
    hypotheses of `live_after_runs_all` are met and the final state is empty -/
def demoActs : List Act :=
  launch 0 2 0 ++ launch 1 1 0 ++ [.token 1, .token 4, .answer 4, .token 2, .answer 1, .answer 2,
    .shutdown 0, .exit 0, .token 2, .answer 2, .exit 0, .exit 0, .shutdown 1, .exit 1, .exit 0]

example : (run allExit init demoActs).workers = [] := by decide +kernel
example : ∀ w ∈ (run allExit init demoActs).workers, w.call ∈ (run allExit init demoActs).closed := by
  decide +kernel
example : quiescent allExit (run allExit init demoActs) := by
  have : (run allExit init demoActs).workers = [] := by decide +kernel
  intro i; simp [enabled, this, getAt]
/-- the same schedule on the pinned lifecycle leaves 3 + 2 goroutines -/
example : live (run pinned init demoActs) = 5 := by decide +kernel
example : liveOf .proc (seqBatch pinned 2 1 false 0 2 init) = 4 := by decide +kernel
example : live (seqBatch allExit 2 1 true 0 2 init) = 0 := by decide +kernel
/-- an enabled worker-only run exists (termination theorem is not vacuous) -/
example : enabledRun allExit (run allExit init (launch 0 1 0 ++ [.token 1, .shutdown 0]))
    [.answer 1, .exit 1, .exit 0] :=
  ⟨by decide, by decide, by decide, by decide, by decide, by decide, trivial⟩

end BMV.Props.C17
