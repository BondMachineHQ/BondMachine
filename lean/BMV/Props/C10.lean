/-
  C10 — Editing a machine's topology never corrupts the bonds it does not touch.

  Property theorems only (helper lemmas: BMV/Proofs/Topology.lean; model: BMV/Topology.lean, a
  hand-written model of pkg/bondmachine/bondmachine.go tied to the code by the correspondence
  check of tools/props/c10.py).

  Statement (properties.jsonl): after any sequence of topology edits a BondMachine is still well
  formed and every bond not addressed by an edit still joins the same two named endpoints, modulo
  the documented renumbering of external ports above a deleted one.
    forall finite sequences of API edits starting from an empty machine with arbitrary domains :
      wellformed(bm_k)  and  bonds(bm_k) == apply_spec(edit_k, bonds(bm_{k-1}))  for every prefix k
-/
import BMV.Proofs.Topology
namespace BMV.Props.C10
open BMV.Topology

/-- the empty machine is well formed -/
theorem wf_init : WF Topo.empty := wf_empty

/-- every edit of the API preserves well-formedness (no precondition: edits the code rejects
    leave the machine unchanged, see `reject_unchanged`) -/
theorem wf_step (t : Topo) (e : Edit) (h : WF t) : WF (apply t e) := (edit_ok h e).wf

/-- every edit changes the set of bonds exactly as its specification says -/
theorem bonds_step (t : Topo) (e : Edit) (h : WF t) (p : Bond × Bond) :
    p ∈ bonds (apply t e) ↔ p ∈ specBonds t e := (edit_ok h e).spec p

/-- an edit the API rejects with an error leaves the machine as it was -/
theorem reject_unchanged (t : Topo) (e : Edit) (h : rejects t e = true) : apply t e = t := by
  cases e with
  | delInput k => simp only [rejects, Bool.not_eq_true', decide_eq_false_iff_not] at h; simp [apply, delInput, h]
  | delOutput k => simp only [rejects, Bool.not_eq_true', decide_eq_false_iff_not] at h; simp [apply, delOutput, h]
  | delBond i => simp only [rejects, Bool.not_eq_true', decide_eq_false_iff_not] at h; simp [apply, delBond, h]
  | attach a b =>
    simp only [rejects, Bool.not_eq_true', decide_eq_false_iff_not] at h
    simp only [apply, attach, h, if_false]
  | _ => simp [rejects] at h

theorem wf_run_from {t : Topo} (h : WF t) (es : List Edit) : WF (run t es) := by
  induction es generalizing t with
  | nil => exact h
  | cons e es ih => exact ih (wf_step t e h)

/-- well-formedness of every machine reachable from the empty one: all finite edit histories,
    arbitrary processor port counts, no bound on length -/
theorem wf_run (es : List Edit) : WF (run Topo.empty es) := wf_run_from wf_init es

theorem bonds_run_from {t : Topo} (h : WF t) (es : List Edit) (e : Edit) (p : Bond × Bond) :
    p ∈ bonds (run t (es ++ [e])) ↔ p ∈ specBonds (run t es) e := by
  rw [show run t (es ++ [e]) = apply (run t es) e by rw [run, List.foldl_append]; rfl]
  exact bonds_step _ e (wf_run_from h es) p

/-- the bond specification holds at every prefix of every history -/
theorem bonds_run (es : List Edit) (e : Edit) (p : Bond × Bond) :
    p ∈ bonds (run Topo.empty (es ++ [e])) ↔ p ∈ specBonds (run Topo.empty es) e :=
  bonds_run_from wf_init es e p

/-- frame corollary: a bond whose endpoints are not addressed by the edit survives it unchanged.
    (addressed = the sink named by add/del bond, the deleted external port; external ports above a
    deleted one are renamed, which is why `delInput`/`delOutput` are stated through `renIn`/`renOut`) -/
theorem bonds_frame (t : Topo) (e : Edit) (h : WF t) (o s : Bond) (hb : (o, s) ∈ bonds t) :
    match e with
    | .addInput | .addOutput | .addProcessor _ _ | .attach _ _ => (o, s) ∈ bonds (apply t e)
    | .delInput k => o ≠ ⟨0, k, 0⟩ → (renIn k o, s) ∈ bonds (apply t e)
    | .delOutput k => s ≠ ⟨1, k, 0⟩ → (o, renOut k s) ∈ bonds (apply t e)
    | .addBond a b => s ≠ a → s ≠ b → (o, s) ∈ bonds (apply t e)
    | .delBond i => t.iin[i]? ≠ some s → (o, s) ∈ bonds (apply t e) := by
  cases e with
  | addInput => exact (bonds_step t _ h _).mpr hb
  | addOutput => exact (bonds_step t _ h _).mpr hb
  | addProcessor n m => exact (bonds_step t _ h _).mpr hb
  | attach a b =>
    refine (bonds_step t _ h _).mpr ?_
    simp only [specBonds]; split
    · exact List.mem_append_left _ hb
    · exact hb
  | delInput k =>
    intro hne
    refine (bonds_step t _ h _).mpr ?_
    simp only [specBonds]; split
    · simp only [List.mem_map, List.mem_filter, decide_eq_true_eq]
      exact ⟨(o, s), ⟨hb, hne⟩, rfl⟩
    · next hk =>
      rw [show renIn k o = o from
        ((h.ioutPorts.mem o).mp (bond_driver_mem hb)).ren_eq (by decide) (Nat.le_of_not_lt hk)]
      exact hb
  | delOutput k =>
    intro hne
    refine (bonds_step t _ h _).mpr ?_
    simp only [specBonds]; split
    · simp only [List.mem_map, List.mem_filter, decide_eq_true_eq]
      exact ⟨(o, s), ⟨hb, hne⟩, rfl⟩
    · next hk =>
      rw [show renOut k s = s from
        ((h.iinPorts.mem s).mp (bond_sink_mem hb)).ren_eq (by decide) (Nat.le_of_not_lt hk)]
      exact hb
  | addBond a b =>
    intro h1 h2
    refine (bonds_step t _ h _).mpr ?_
    simp only [specBonds]
    cases ht : addBondTarget t a b with
    | none => exact hb
    | some os =>
      obtain ⟨o', s'⟩ := os
      simp only [List.mem_append, List.mem_filter, decide_eq_true_eq]
      left
      refine ⟨hb, ?_⟩
      -- the sink chosen by addBond is one of the two named endpoints
      rcases addBondTarget_sink ht with e | e <;> (rw [e]; assumption)
  | delBond i =>
    intro hne
    refine (bonds_step t _ h _).mpr ?_
    simp only [specBonds]
    cases hs : t.iin[i]? with
    | none => exact hb
    | some s' =>
      simp only [List.mem_filter, decide_eq_true_eq]
      exact ⟨hb, fun e => hne (by rw [hs, e])⟩

/-- The executable check `wfB`, which the driver evaluates on every state dumped by the real
    implementation, decides exactly the well-formedness predicate of the theorems above; and
    `sameSet (bonds g') (specBonds g e)` is the Boolean form of `bonds_step`'s conclusion
    (`sameSet_iff`). -/
theorem wfB_decides_WF (t : Topo) : wfB t = true ↔ WF t := wfB_iff t

/-- The command line layer only composes API edits (`applyCli t e = run t (expandCli t e)` by
    definition), so every machine reachable through any sequence of CLI invocations is well formed. -/
theorem wf_cli (t : Topo) (e : CliEdit) (h : WF t) : WF (applyCli t e) := wf_run_from h _

theorem wf_cli_run (es : List CliEdit) : WF (es.foldl applyCli Topo.empty) := by
  suffices ∀ t, WF t → WF (es.foldl applyCli t) from this _ wf_init
  induction es with
  | nil => intro t h; exact h
  | cons e es ih => intro t h; exact ih _ (wf_cli t e h)

/-- `-del-outputs` / `-del-inputs` delete exactly the named ids that exist, once each, highest first
    (so that the renumbering of one deletion never redirects a later one) -/
theorem cliIds_spec (count : Nat) (ks : List Nat) :
    (∀ k, k ∈ cliIds count ks ↔ (k ∈ ks ∧ k < count)) ∧ (cliIds count ks).Nodup ∧
    (cliIds count ks).Pairwise (· ≥ ·) := by
  unfold cliIds
  -- one step of the fold keeps the accumulator duplicate-free and adds `x` if it is below `count`
  have hstep : ∀ (acc : List Nat) (x : Nat), acc.Nodup →
      (if x < count ∧ x ∉ acc then acc ++ [x] else acc).Nodup ∧
      ∀ k, k ∈ (if x < count ∧ x ∉ acc then acc ++ [x] else acc) ↔ k ∈ acc ∨ (k = x ∧ k < count) := by
    intro acc x hn
    by_cases hc : x < count ∧ x ∉ acc
    · rw [if_pos hc]
      refine ⟨List.nodup_append.mpr ⟨hn, List.pairwise_singleton _ _,
        fun a ha b hb e => hc.2 (List.mem_singleton.mp hb ▸ e ▸ ha)⟩, fun k => ?_⟩
      rw [List.mem_append, List.mem_singleton]
      exact or_congr Iff.rfl ⟨fun e => ⟨e, e ▸ hc.1⟩, And.left⟩
    · rw [if_neg hc]
      refine ⟨hn, fun k => ⟨Or.inl, ?_⟩⟩
      rintro (h1 | ⟨rfl, h2⟩)
      · exact h1
      · exact Decidable.byContradiction fun hna => hc ⟨h2, hna⟩
  have hfold : ∀ (l acc : List Nat), acc.Nodup →
      let r := l.foldl (fun acc k => if k < count ∧ k ∉ acc then acc ++ [k] else acc) acc
      r.Nodup ∧ (∀ k, k ∈ r ↔ (k ∈ acc ∨ (k ∈ l ∧ k < count))) := by
    intro l
    induction l with
    | nil => intro acc hn; simp [hn]
    | cons x xs ih =>
      intro acc hn
      obtain ⟨r1, r2⟩ := ih _ (hstep acc x hn).1
      refine ⟨r1, fun k => ?_⟩
      rw [List.foldl_cons, r2 k, (hstep acc x hn).2 k, List.mem_cons, or_assoc, or_and_right]
  obtain ⟨hn, hm⟩ := hfold ks [] List.nodup_nil
  simp only [List.not_mem_nil, false_or] at hm
  refine ⟨?_, ?_, ?_⟩
  · intro k
    rw [List.mem_reverse, List.mem_mergeSort, hm k]
  · exact ((List.reverse_perm _).trans (List.mergeSort_perm _ _)).nodup_iff.mpr hn
  · rw [List.pairwise_reverse]
    have := List.pairwise_mergeSort (le := fun a b => decide (a ≤ b)) (by intro a b c; simp; omega) (by intro a b; simp; omega)
      (ks.foldl (fun acc k => if k < count ∧ k ∉ acc then acc ++ [k] else acc) [])
    exact this.imp (by intro a b h; simpa using h)

/-! ### non-vacuity: a concrete history that exercises the dangerous case (delete a middle
    external input that has bonds above it) reaches a well-formed machine with bonds, and the
    renumbering is visible. -/

def demoHistory : List Edit :=
  [.addInput, .addInput, .addInput, .addProcessor 2 1, .addOutput,
   .addBond ⟨2, 0, 0⟩ ⟨0, 2, 0⟩, .addBond ⟨2, 0, 1⟩ ⟨0, 0, 0⟩, .addBond ⟨1, 0, 0⟩ ⟨3, 0, 0⟩,
   .delInput 1]

example : bonds (run Topo.empty demoHistory) =
    [(⟨0, 1, 0⟩, ⟨2, 0, 0⟩), (⟨0, 0, 0⟩, ⟨2, 0, 1⟩), (⟨3, 0, 0⟩, ⟨1, 0, 0⟩)] := by decide

example : wfB (run Topo.empty demoHistory) = true := by decide

end BMV.Props.C10
