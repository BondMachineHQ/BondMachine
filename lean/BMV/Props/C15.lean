/-
  C15 — Simulation rules are applied exactly as written.

  The property theorems (lemmas: BMV/Proofs/Simbox.lean; model: BMV/Simbox.lean, a hand-written
  model of pkg/simbox/simbox.go and of the rule compilation / tick loop of the bondmachine
  simulator, tied to the code by the correspondence check of tools/props/c15.py).

  Statement (properties.jsonl): every simbox rule prints to a string that parses back to the same
  rule, and rule files survive save/load.  During simulation a set rule changes exactly the named
  object to exactly the stated value at exactly the stated tick (or every period), get/show rules
  report the value the object has at that tick, on-valid/on-exit rules fire exactly at those
  events, and a suspended rule has no effect at all.

  Part 1 (rule text, rule list): full strength.
  Part 2 (application): stated for every machine (`step : Vm → Vm` arbitrary) about the state the
  machine step is called on (`injected`) and about one iteration of the loop (`iteration`).
-/
import BMV.Proofs.Simbox
namespace BMV.Props.C15
open BMV.Simbox

/-! ## Part 1 — rule text -/

/-- `strings.Split` inverts `strings.Join` on non-empty lists of colon-free words (proved for the
    model's split/join; that Go's agree with them is checked by the correspondence) -/
theorem split_join (ws : List String) (hne : ws ≠ []) (h : ∀ w ∈ ws, colonFree w) :
    splitStr (joinStr ws) = ws := by
  unfold splitStr joinStr
  rw [String.toList_intercalate]
  have : (":" : String).toList = [':'] := by decide
  rw [this, List.splitOn_intercalate]
  · simp [List.map_map, Function.comp_def, String.ofList_toList]
  · intro l hl
    simp only [List.mem_map] at hl
    obtain ⟨w, hw, rfl⟩ := hl
    exact h w hw
  · simpa using hne

/-- the decimal tick survives the `uint64 → int → Itoa → Atoi → uint64` journey for *every*
    uint64 (ticks ≥ 2^63 print as negative numbers and come back) -/
theorem tick_text_roundtrip (t : Nat) (h : t < two64) :
    (atoi (itoa (intOfTick t))).map tickOfInt = some t := by
  rw [atoi_itoa_tick t h, Option.map_some, tick_roundtrip t h]

/-- printing then parsing a rule `Add` can produce returns the rule, on words (`parseRule` is what
    `Add` does after `strings.Split`) ... -/
theorem parse_print_words (r : Rule) (h : RuleWF r) : parseRule (ruleWords r) = some r := by
  obtain ⟨tc, tk, a, o, e, s⟩ := r
  obtain ⟨-, -, hs, hshape⟩ := h
  simp only at hs hshape
  subst hs
  rcases hshape with ⟨htc, ha, htk⟩ | ⟨htc, ha, rfl⟩ | ⟨rfl, rfl, rfl, hopt⟩
  · rw [ruleWords_timed _ htc ha, parseRule_timed htc ha (atoi_itoa_tick tk htk), tick_roundtrip tk htk]
  · rw [ruleWords_event _ htc ha, parseRule_event htc ha]
  · rw [ruleWords_config _ rfl rfl]
    rcases hopt with hb | ⟨hp, rfl⟩
    · rw [if_pos hb, parseRule_bulk hb]
    · rw [if_neg (fun hb => mem_bulk_not_plain o hb hp), parseRule_plain hp]

/-- ... and on the *string*, through the model of `strings.Split` -/
theorem parse_print (r : Rule) (h : RuleWF r) : addStr (ruleString r) = some r := by
  unfold addStr ruleString
  rw [split_join _ (ruleWords_ne_nil r) (ruleWords_colonFree r h)]
  exact parse_print_words r h

/-- `RuleWF` is an upper bound of the image of `Add` ... -/
theorem add_image_wf (s : String) (r : Rule) (h : addStr s = some r) : RuleWF r :=
  parseRule_wf _ r (splitStr_colonFree s) h

/-- ... and a lower bound: `RuleWF` is *exactly* the set of rules `Add` produces -/
theorem wf_in_image (r : Rule) (h : RuleWF r) : ∃ s, addStr s = some r :=
  ⟨ruleString r, parse_print r h⟩

/-- for every accepted string: printing the accepted rule gives a string that is accepted as the
    same rule, and printing is then a fixed point (idempotent normal form) -/
theorem print_parse (s : String) (r : Rule) (h : addStr s = some r) :
    addStr (ruleString r) = some r ∧
      ∀ r', addStr (ruleString r) = some r' → ruleString r' = ruleString r := by
  have := parse_print r (add_image_wf s r h)
  refine ⟨this, fun r' h' => ?_⟩
  rw [this] at h'; cases h'; rfl

/-! ## Part 1 — rule list -/

/-- suspending an active rule and reactivating it gives back the list -/
theorem suspend_reactivate_id (b : Box) (i : Nat) (hi : i < b.length)
    (hact : ∀ r, b[i]? = some r → r.suspended = false) :
    (suspend b i).bind (fun b' => reactivate b' i) = some b := by
  unfold suspend reactivate
  rw [if_pos hi, Option.bind_some, List.length_modify, if_pos hi, List.modify_modify_eq]
  congr 1
  apply modify_id_of
  intro r hr
  rw [Function.comp, setSusp_setSusp]
  exact setSusp_idem _ _ (hact r hr)

/-- `Suspend` touches nothing but the flag of rule `i` -/
theorem suspend_frame (b b' : Box) (i : Nat) (h : suspend b i = some b') :
    b'.length = b.length ∧
      ∀ j, b'[j]? = if j = i then (b[j]?).map (setSusp true) else b[j]? :=
  modify_frame h

/-- `Reactivate` touches nothing but the flag of rule `i` -/
theorem reactivate_frame (b b' : Box) (i : Nat) (h : reactivate b i = some b') :
    b'.length = b.length ∧
      ∀ j, b'[j]? = if j = i then (b[j]?).map (setSusp false) else b[j]? :=
  modify_frame h

/-- `Del i` removes exactly rule `i`: rules below keep their index, rules above move down by one -/
theorem del_shifts (b b' : Box) (i : Nat) (h : del b i = some b') :
    b'.length + 1 = b.length ∧ ∀ j, b'[j]? = if j < i then b[j]? else b[j + 1]? := by
  unfold del at h
  split at h
  · rename_i hi
    cases h
    exact ⟨by rw [List.length_eraseIdx, if_pos hi]; omega, fun j => List.getElem?_eraseIdx ..⟩
  · cases h

/-- `Add` appends one active rule of the image and changes nothing else -/
theorem add_appends (b b' : Box) (s : String) (h : add b s = some b') :
    ∃ r, addStr s = some r ∧ b' = b ++ [r] ∧ RuleWF r := by
  unfold add at h
  cases hr : addStr s with
  | none => rw [hr] at h; cases h
  | some r =>
    rw [hr] at h; cases h
    exact ⟨r, rfl, rfl, add_image_wf s r hr⟩

/-- an out-of-range index is rejected by all three index operations -/
theorem index_rejected (b : Box) (i : Nat) (h : b.length ≤ i) :
    del b i = none ∧ suspend b i = none ∧ reactivate b i = none := by
  have : ¬ i < b.length := by omega
  simp [del, suspend, reactivate, this]

/-- list invariant: after any history of edits from the empty list every rule is a rule of the
    image of `Add` up to its suspension flag ... -/
theorem history_wf (es : List Edit) : BoxWF (runEdits [] es) :=
  boxWF_runEdits es [] (fun _ h => by cases h)

/-- ... hence every rule of every reachable list prints and parses back to itself up to the flag ... -/
theorem history_parse_print (es : List Edit) (r : Rule) (h : r ∈ runEdits [] es) :
    addStr (ruleString r) = some (setSusp false r) := by
  have := parse_print _ (history_wf es r h)
  rwa [ruleString_setSusp] at this

/-- ... and the whole list survives being listed and typed in again (`rebuild` = add every printed
    rule, suspend the ones marked suspended) -/
theorem history_rebuild (es : List Edit) : rebuild (runEdits [] es) = some (runEdits [] es) :=
  rebuild_of_addStr _ (history_parse_print es)

/-! ### non-vacuity (part 1) -/

example : RuleWF ⟨.abs, 100, .set, "i0", "42", false⟩ := by
  refine ⟨by decide, by decide, rfl, .inl ⟨.inl rfl, .inl rfl, by decide⟩⟩
example : ruleString ⟨.abs, 100, .set, "i0", "42", false⟩ = "absolute:100:set:i0:42" := by decide
example : ruleString ⟨.rel, two64 - 1, .get, "o1", "hex", false⟩ = "relative:-1:get:o1:hex" := by decide
example : RuleWF ⟨.notime, 0, .config, "get_all", "hex", false⟩ :=
  ⟨by decide, by decide, rfl, .inr (.inr ⟨rfl, rfl, rfl, .inl (by decide)⟩)⟩
example : RuleWF ⟨.onExit, 0, .show, "o0", "", false⟩ :=
  ⟨by decide, by decide, rfl, .inr (.inl ⟨.inr (.inr rfl), .inr rfl, rfl⟩)⟩
/-- a rule outside the image that does *not* round trip: `Rule.String` drops the extra of a plain option -/
example : addStr (ruleString ⟨.notime, 0, .config, "show_pc", "x", false⟩)
    = some ⟨.notime, 0, .config, "show_pc", "", false⟩ := by decide


/-! ## Part 2 — rule application

  `step : Vm → Vm` (the machine) is arbitrary in every statement.  `injected sh acts t vm` is the
  state `VM.Step` is called on in iteration `t` when the loop entered the iteration with `vm`;
  `iteration` is one pass of the loop body; `compile` is SimDrive.Init + SimReport.Init +
  SimConfig.Init.  Cells named by valid/recv mnemonics are excluded (`isFlag = false`): the code
  hands out detached pointers for them, see docs/C15.md (O2). -/
namespace Sim
open BMV.Simbox.Sim

/-- a suspended rule has no effect at all: compiling a rule list = compiling its active rules
    (drive, show and get reports, configuration), hence the whole simulation is the same -/
theorem suspended_no_effect (sh : Shape) (bondNames : List String) (b : Box) :
    compile sh bondNames b = compile sh bondNames (b.filter fun r => !r.suspended) := by
  show _ = compile sh bondNames (active b)
  unfold compile
  rw [compileSets_active, compileReport_active sh bondNames .show, compileReport_active sh bondNames .get,
    compileConf_active]

/-- ... in particular suspending rule `i` is the same as deleting it, as far as simulation goes -/
theorem suspend_eq_delete (sh : Shape) (bondNames : List String) (b : Box) (i : Nat) (hi : i < b.length) :
    compile sh bondNames (b.modify i (setSusp true)) = compile sh bondNames (b.eraseIdx i) := by
  rw [suspended_no_effect, suspended_no_effect sh bondNames (b.eraseIdx i)]
  congr 1
  -- the list is the same around rule `i`, and rule `i`, now suspended, is filtered out
  rw [List.modify_eq_take_cons_drop hi, List.eraseIdx_eq_take_drop_succ, List.filter_append, List.filter_append,
    List.filter_cons_of_neg (by simp [setSusp])]

/-- the compiled set actions are exactly the active `absolute|relative : set` rules, each with its
    resolved element, its value reduced to the register type, its tick or period -/
theorem sets_are_the_rules (sh : Shape) (b : Box) (acts : List SetAct) (h : compileSets sh b = .ok acts)
    (a : SetAct) : a ∈ acts ↔ ∃ r ∈ b, isSetRule r ∧ setActOf sh r = some a := by
  induction b generalizing acts with
  | nil => rw [compileSets] at h; cases h; simp
  | cons r rs ih =>
    simp only [List.mem_cons, or_and_right, exists_or, exists_eq_left]
    rcases compileSets_cons_ok h with ⟨hn, h'⟩ | ⟨hy, a0, acts', hso, h', rfl⟩
    · rw [ih acts h']; simp [hn]
    · rw [List.mem_cons, ih acts' h', hso]; simp [hy, eq_comm]

/-- tick arithmetic of set rules: an absolute rule fires at its tick only (`set_only_then`), a
    periodic rule with period p ≥ 1 at the multiples of p and a period of 0 never (`periodic_every_p`) -/
theorem set_only_then (a : SetAct) (t : Nat) (h : a.periodic = false) : a.fires t = true ↔ a.tick = t := by
  simp [SetAct.fires, h]

theorem periodic_every_p (a : SetAct) (t : Nat) (h : a.periodic = true) :
    a.fires t = true ↔ a.tick ≠ 0 ∧ t % a.tick = 0 := by
  simp [SetAct.fires, h]

/-- what is applied at tick `t` is exactly the set of compiled actions that fire at `t` -/
theorem firing_exact (acts : List SetAct) (t : Nat) (a : SetAct) :
    a ∈ firing acts t ↔ a ∈ acts ∧ a.fires t = true := by
  unfold firing
  simp only [List.mem_append, List.mem_filter, mem_sortByTick, Bool.and_eq_true, Bool.not_eq_true']
  constructor
  · rintro (⟨h1, _, h3⟩ | ⟨h1, _, h3⟩) <;> exact ⟨h1, h3⟩
  · rintro ⟨h1, h3⟩
    cases hp : a.periodic
    · exact .inl ⟨h1, rfl, h3⟩
    · exact .inr ⟨h1, rfl, h3⟩

/-- exactness and frame in one statement: in the state handed to the machine step every
    (non-flag) cell holds the value of the last firing action that names it, and is *unchanged*
    if no firing action names it — nothing else is injected, by any rule, at any tick -/
theorem set_exact_and_frame (sh : Shape) (acts : List SetAct) (t : Nat) (vm : Vm) (l : Loc) (hl : l.isFlag = false) :
    read (injected sh acts t vm) l =
      match (firing acts t).reverse.find? (fun a => a.loc = l) with
      | some a => (read vm l).map (fun _ => a.val)
      | none => read vm l := by
  unfold injected
  rw [read_applyActs _ _ _ hl, read_clearValid _ _ _ (ne_inValid hl)]
  rfl

/-- `set_exact`: a firing action that is the only one naming its (existing) cell at that tick puts
    exactly its value there -/
theorem set_exact (sh : Shape) (acts : List SetAct) (t : Nat) (vm : Vm) (a : SetAct)
    (ha : a ∈ firing acts t) (hl : a.loc.isFlag = false)
    (huniq : ∀ b ∈ firing acts t, b.loc = a.loc → b.val = a.val)
    (x : Nat) (hx : read vm a.loc = some x) :
    read (injected sh acts t vm) a.loc = some a.val := by
  rw [set_exact_and_frame sh acts t vm a.loc hl]
  cases hf : (firing acts t).reverse.find? (fun b => b.loc = a.loc) with
  | none =>
    have := List.find?_eq_none.mp hf a (by simpa using ha)
    simp at this
  | some b =>
    obtain ⟨hb, hp⟩ := find?_last hf
    simp [hx, huniq b hb hp]

/-- `set_exact`, end to end from the rule list: an active `absolute:t:set:o:v` rule whose object
    resolves to an existing non-flag element `l` and whose value reads as `n` makes the state the
    machine step is called on at tick `t` hold `n mod 2^w` in `l` (w = bits of the register type),
    provided no other set action firing at `t` writes a different value to `l`; for every loop
    state `vm`, every machine -/
theorem set_exact_rule (sh : Shape) (b : Box) (acts : List SetAct) (hc : compileSets sh b = .ok acts)
    (r : Rule) (hr : r ∈ b) (hs : r.suspended = false) (ha : r.action = .set) (htc : r.timec = .abs)
    (l : Loc) (n w : Nat) (hl : resolve sh r.object = some l) (hn : importNumber r.extra = some n)
    (hw : wbits sh.rsize = some w) (hflag : l.isFlag = false) (vm : Vm) (x : Nat) (hx : read vm l = some x)
    (huniq : ∀ a ∈ firing acts r.tick, a.loc = l → a.val = n % 2 ^ w) :
    read (injected sh acts r.tick vm) l = some (n % 2 ^ w) := by
  have hso : setActOf sh r = some ⟨false, r.tick, l, n % 2 ^ w⟩ := by
    simp [setActOf, hl, hn, hw, htc]
  have hmem := (sets_are_the_rules sh b acts hc _).mpr ⟨r, hr, ⟨hs, ha, .inl htc⟩, hso⟩
  have hfire := (firing_exact acts r.tick _).mpr ⟨hmem, by simp [SetAct.fires]⟩
  exact set_exact sh acts r.tick vm _ hfire hflag huniq x hx

/-- `frame`: a cell no firing action names is not touched by the injection -/
theorem set_frame (sh : Shape) (acts : List SetAct) (t : Nat) (vm : Vm) (l : Loc) (hl : l.isFlag = false)
    (hnone : ∀ a ∈ acts, a.fires t = true → a.loc ≠ l) :
    read (injected sh acts t vm) l = read vm l := by
  rw [set_exact_and_frame sh acts t vm l hl]
  cases hf : (firing acts t).reverse.find? (fun b => b.loc = l) with
  | none => rfl
  | some b =>
    obtain ⟨hb, hp⟩ := find?_last hf
    have := (firing_exact acts t b).mp hb
    exact absurd hp (hnone b this.1 this.2)

/-- the valid flag of input `k` after injection: raised iff a firing action writes input `k`;
    otherwise what the handshake left (cleared when the input had been received) -/
theorem set_raises_valid (sh : Shape) (acts : List SetAct) (t : Nat) (vm : Vm) (k : Nat) :
    read (injected sh acts t vm) (.inValid k) =
      if (firing acts t).any (fun a => a.loc = .inReg k)
      then (read (clearValid sh.nIn vm) (.inValid k)).map (fun _ => 1)
      else read (clearValid sh.nIn vm) (.inValid k) := by
  unfold injected
  rw [read_applyActs_valid]

/-- one loop iteration (not yet finished): appends one record for tick `t`; unless the loop is
    shutting down the machine step is called on `injected …` and the outputs are acknowledged;
    in the shutdown iteration nothing is injected or stepped; the values shown are the values of
    the fired slots in the state after the iteration -/
theorem iteration_spec (step : Vm → Vm) (c : Compiled) (stopOn : Option Nat) (report : Bool) (s : LoopSt)
    (t : Nat) (h : s.done = false) :
    ∃ r, (iteration step c stopOn report s t).trace = s.trace ++ [r] ∧ r.tick = t ∧
      r.shutdown = isShutdown stopOn s.vm ∧
      (r.shutdown = false → r.pre = injected c.sh c.acts t s.vm ∧ r.stepped = step r.pre ∧
          r.post = ackOutputs c.sh.nOut r.stepped) ∧
      (r.shutdown = true → r.pre = s.vm ∧ r.post = s.vm) ∧
      (r.fatal = 0 → r.shown = (slotValues c.shows r.post (firedSlots c.shows t s.old r.post r.shutdown true)).1 ∧
          (slotValues c.shows r.post (firedSlots c.shows t s.old r.post r.shutdown true)).2 = false) := by
  unfold iteration
  rw [if_neg (ne_true_of_eq_false h)]
  extract_lets sd pre stepped post
  have h0 : sd = false → pre = injected c.sh c.acts t s.vm ∧ stepped = step pre ∧
      post = ackOutputs c.sh.nOut stepped := fun e =>
    ⟨if_neg (ne_true_of_eq_false e), if_neg (ne_true_of_eq_false e), if_neg (ne_true_of_eq_false e)⟩
  have h1 : sd = true → pre = s.vm ∧ post = s.vm := fun e => ⟨if_pos e, if_pos e⟩
  -- the three ways an iteration can end differ only in what is shown and reported
  by_cases hz : hasZeroPeriod c.shows = true
  · rw [if_pos hz]
    exact ⟨_, rfl, rfl, rfl, h0, h1, nofun⟩
  rw [if_neg hz]
  rcases hsv : slotValues c.shows post (firedSlots c.shows t s.old post sd true) with ⟨shown, badS⟩
  cases badS
  · generalize (if report = true then reportRow c t post else (none, false)) = row
    exact ⟨_, rfl, rfl, rfl, h0, h1, fun _ => by rw [hsv]; exact ⟨rfl, rfl⟩⟩
  · exact ⟨_, rfl, rfl, rfl, h0, h1, nofun⟩

/-- `get_reports_value` (soundness): every value printed for slot `i` is the value the slot's
    element has in the given state, with the slot's type, and slot `i` was asked for -/
theorem shown_is_value (rp : Report) (vm : Vm) (idxs : List Nat) (i : Nat) (ty : String) (v : Nat)
    (h : (i, ty, v) ∈ (slotValues rp vm idxs).1) :
    i ∈ idxs ∧ ∃ s, rp.slots[i]? = some s ∧ s.ty = ty ∧ v = readD vm s.loc ∧ s.loc.isFlag = false := by
  induction idxs with
  | nil => cases h
  | cons j js ih =>
    cases hs : rp.slots[j]? with
    | none =>
      rw [slotValues_cons_none hs] at h
      exact And.imp_left (List.mem_cons_of_mem _) (ih h)
    | some s =>
      cases hf : s.loc.isFlag with
      | true => rw [slotValues_cons_flag hs hf] at h; cases h
      | false =>
        rw [slotValues_cons_some hs hf, List.mem_cons] at h
        rcases h with h | h
        · cases h; exact ⟨List.mem_cons_self, s, hs, rfl, rfl, hf⟩
        · exact And.imp_left (List.mem_cons_of_mem _) (ih h)

/-- `get_reports_value` (completeness): unless a flag slot aborted the printing, every slot asked
    for is printed -/
theorem asked_is_shown (rp : Report) (vm : Vm) (idxs : List Nat) (hok : (slotValues rp vm idxs).2 = false)
    (i : Nat) (hi : i ∈ idxs) (s : Slot) (hs : rp.slots[i]? = some s) :
    (i, s.ty, readD vm s.loc) ∈ (slotValues rp vm idxs).1 := by
  induction idxs with
  | nil => cases hi
  | cons j js ih =>
    cases hs' : rp.slots[j]? with
    | none =>
      rw [slotValues_cons_none hs'] at hok ⊢
      rcases List.mem_cons.mp hi with rfl | hi
      · rw [hs] at hs'; cases hs'
      · exact ih hok hi
    | some s' =>
      cases hf : s'.loc.isFlag with
      | true => rw [slotValues_cons_flag hs' hf] at hok; cases hok
      | false =>
        rw [slotValues_cons_some hs' hf] at hok ⊢
        rcases List.mem_cons.mp hi with rfl | hi
        · rw [hs] at hs'; cases hs'; exact List.mem_cons_self
        · exact List.mem_cons_of_mem _ (ih hok hi)

/-- a slot is printed at tick `t` iff one of its watches fires at `t` -/
theorem fired_iff_watch (rp : Report) (t : Nat) (old new : Vm) (sd ev : Bool) (i : Nat) :
    i ∈ firedSlots rp t old new sd ev ↔
      i < rp.slots.length ∧ ∃ w ∈ rp.watches, w.slot = i ∧ w.fires t old new sd ev = true := by
  simp only [firedSlots, List.mem_filter, List.mem_range, List.any_eq_true, Bool.and_eq_true, beq_iff_eq]

/-- when the four kinds of watch fire: at the tick; every p ticks (p ≥ 1); on the rising edge of
    the element's valid flag between two consecutive iterations (`onvalid_fires_iff_rising`);
    in the shutdown iteration (`onexit_fires_iff_shutdown`) — events only where they are looked at -/
theorem watch_at (i t' t : Nat) (old new : Vm) (sd ev : Bool) :
    (Watch.mk i (.at t')).fires t old new sd ev = true ↔ t' = t := by
  simp [Watch.fires]

theorem watch_every (i p t : Nat) (old new : Vm) (sd ev : Bool) :
    (Watch.mk i (.every p)).fires t old new sd ev = true ↔ p ≠ 0 ∧ t % p = 0 := by
  simp [Watch.fires]

theorem onvalid_fires_iff_rising (i : Nat) (f : Loc) (t : Nat) (old new : Vm) (sd ev : Bool) :
    (Watch.mk i (.onValid f)).fires t old new sd ev = true ↔ ev = true ∧ readD new f = 1 ∧ readD old f ≠ 1 := by
  simp [Watch.fires, and_assoc]

theorem onexit_fires_iff_shutdown (i t : Nat) (old new : Vm) (sd ev : Bool) :
    (Watch.mk i .onExit).fires t old new sd ev = true ↔ ev = true ∧ sd = true := by
  simp [Watch.fires]

/-- from rule to watch: an active `absolute:t` / `relative:p` show (get) rule whose object resolves
    owns a slot for that element and a watch on it with the rule's tick / period -/
theorem timed_rule_is_watched (sh : Shape) (bn : List String) (act : Action) (b : Box) (rp : Report)
    (h : compileReport sh bn act b {} = .ok rp) (r : Rule) (hr : r ∈ b) (hs : r.suspended = false)
    (ha : r.action = act) (htc : r.timec = .abs ∨ r.timec = .rel) (l : Loc) (hl : resolve sh r.object = some l) :
    ∃ i s, rp.slots[i]? = some s ∧ s.loc = l ∧
      ⟨i, if r.timec = .abs then .at r.tick else .every r.tick⟩ ∈ rp.watches := by
  rcases htc with h1 | h1
  · rw [if_pos h1]; exact rule_is_watched sh bn act b {} rp h r hr hs ha l hl _ (.inl ⟨h1, rfl⟩)
  · rw [if_neg (by rw [h1]; decide)]
    exact rule_is_watched sh bn act b {} rp h r hr hs ha l hl _ (.inr (.inl ⟨h1, rfl⟩))

theorem onexit_rule_is_watched (sh : Shape) (bn : List String) (act : Action) (b : Box) (rp : Report)
    (h : compileReport sh bn act b {} = .ok rp) (r : Rule) (hr : r ∈ b) (hs : r.suspended = false)
    (ha : r.action = act) (htc : r.timec = .onExit) (l : Loc) (hl : resolve sh r.object = some l) :
    ∃ i s, rp.slots[i]? = some s ∧ s.loc = l ∧ ⟨i, .onExit⟩ ∈ rp.watches :=
  rule_is_watched sh bn act b {} rp h r hr hs ha l hl _ (.inr (.inr (.inr ⟨htc, rfl⟩)))

theorem onvalid_rule_is_watched (sh : Shape) (bn : List String) (act : Action) (b : Box) (rp : Report)
    (h : compileReport sh bn act b {} = .ok rp) (r : Rule) (hr : r ∈ b) (hs : r.suspended = false)
    (ha : r.action = act) (htc : r.timec = .onValid) (l f : Loc) (hl : resolve sh r.object = some l)
    (hf : validFlagOf sh r.object = some f) :
    ∃ i s, rp.slots[i]? = some s ∧ s.loc = l ∧ ⟨i, .onValid f⟩ ∈ rp.watches :=
  rule_is_watched sh bn act b {} rp h r hr hs ha l hl _ (.inr (.inr (.inl ⟨htc, f, hf, rfl⟩)))

/-- every watch of the show report that fires in an iteration that is not aborted has its slot
    printed, with the value the slot's element has after that iteration -/
theorem fired_watch_is_shown (step : Vm → Vm) (c : Compiled) (stopOn : Option Nat) (report : Bool)
    (s : LoopSt) (t : Nat) (hd : s.done = false) :
    ∃ rec, (iteration step c stopOn report s t).trace = s.trace ++ [rec] ∧
      (rec.fatal = 0 → ∀ i sl w, c.shows.slots[i]? = some sl → ⟨i, w⟩ ∈ c.shows.watches →
        (Watch.mk i w).fires t s.old rec.post rec.shutdown true = true →
        (i, sl.ty, readD rec.post sl.loc) ∈ rec.shown) := by
  obtain ⟨rec, htr, _, _, _, _, hshown⟩ := iteration_spec step c stopOn report s t hd
  refine ⟨rec, htr, fun hf i sl w hsl hw hfire => ?_⟩
  obtain ⟨hsh, hok⟩ := hshown hf
  obtain ⟨hi, _⟩ := List.getElem?_eq_some_iff.mp hsl
  rw [hsh]
  exact asked_is_shown c.shows rec.post _ hok i ((fired_iff_watch ..).mpr ⟨hi, _, hw, rfl, hfire⟩) sl hsl

/-- `get_reports_value`, end to end for show rules: if the rule list contains an active
    `absolute:t:show:o:…` rule whose object resolves to a (non-flag) element, then the iteration
    for tick `t` of any run that is not aborted prints, for that element's slot, the value the
    element has after that iteration — for every machine step, every loop state -/
theorem get_reports_value (step : Vm → Vm) (c : Compiled) (bn : List String) (b : Box)
    (hc : compileReport c.sh bn .show b {} = .ok c.shows)
    (r : Rule) (hr : r ∈ b) (hs : r.suspended = false) (ha : r.action = .show) (htc : r.timec = .abs)
    (l : Loc) (hl : resolve c.sh r.object = some l)
    (stopOn : Option Nat) (report : Bool) (s : LoopSt) (hd : s.done = false) :
    ∃ rec, (iteration step c stopOn report s r.tick).trace = s.trace ++ [rec] ∧
      (rec.fatal = 0 → ∃ i sl, c.shows.slots[i]? = some sl ∧ sl.loc = l ∧
        (i, sl.ty, readD rec.post l) ∈ rec.shown) := by
  obtain ⟨rec, htr, hshown⟩ := fired_watch_is_shown step c stopOn report s r.tick hd
  refine ⟨rec, htr, fun hf => ?_⟩
  obtain ⟨i, sl, hsl, hloc, hw⟩ :=
    rule_is_watched c.sh bn .show b {} c.shows hc r hr hs ha l hl (.at r.tick) (.inl ⟨htc, rfl⟩)
  exact ⟨i, sl, hsl, hloc, hloc ▸ hshown hf i sl _ hsl hw ((watch_at ..).mpr rfl)⟩

/-! ### what is *not* proved (kept visible)

  The converse direction for reports — every watch of the compiled report comes from an active
  rule of that kind, so nothing is shown that no rule asked for — is checked by the
  correspondence (every show line and report row of every generated rule list is compared with
  the model, whose `firedSlots` is exact by `fired_iff_watch`) but not proved as a theorem about
  `compileReport`. -/
def watches_come_from_rules_full : Prop :=
  ∀ (sh : Shape) (bn : List String) (act : Action) (b : Box) (rp : Report) (w : Watch),
    compileReport sh bn act b {} = .ok rp → w ∈ rp.watches →
    ∃ r ∈ b, r.suspended = false ∧ r.action = act ∧
      ((r.timec = .abs ∧ w.trigger = .at r.tick) ∨ (r.timec = .rel ∧ w.trigger = .every r.tick) ∨
       (r.timec = .onValid ∧ ∃ f, validFlagOf sh r.object = some f ∧ w.trigger = .onValid f) ∨
       (r.timec = .onExit ∧ w.trigger = .onExit))

/-! ### non-vacuity (part 2): a concrete machine and rule list -/

def exShape : Shape := ⟨8, 2, 2, [(0, 0, 4)]⟩
def exTopo : Topo := ⟨[⟨1, 0, 0⟩, ⟨1, 1, 0⟩], [⟨0, 0, 0⟩, ⟨0, 1, 0⟩], [some 0, some 1]⟩
def exRules : Box :=
  [⟨.abs, 2, .set, "i0", "5", false⟩, ⟨.rel, 3, .set, "i1", "300", false⟩,
   ⟨.abs, 2, .set, "i0", "9", true⟩, ⟨.abs, 3, .show, "o0", "hex", false⟩]

/-- the example compiles to two actions (the suspended one is gone, 300 is reduced to 44) ... -/
example : compileSets exShape exRules = .ok [⟨false, 2, .inReg 0, 5⟩, ⟨true, 3, .inReg 1, 44⟩] := by rfl
/-- ... at tick 3 only the periodic one fires, at tick 2 only the absolute one ... -/
example : firing [⟨false, 2, .inReg 0, 5⟩, ⟨true, 3, .inReg 1, 44⟩] 3 = [⟨true, 3, .inReg 1, 44⟩] := by decide
example : firing [⟨false, 2, .inReg 0, 5⟩, ⟨true, 3, .inReg 1, 44⟩] 2 = [⟨false, 2, .inReg 0, 5⟩] := by decide
/-- two periodic rules of the same period on one element keep their rule order (the later wins) -/
example : firing [⟨true, 2, .outReg 1, 0⟩, ⟨true, 3, .inReg 0, 1⟩, ⟨true, 2, .outReg 1, 9⟩] 0
    = [⟨true, 2, .outReg 1, 0⟩, ⟨true, 2, .outReg 1, 9⟩, ⟨true, 3, .inReg 0, 1⟩] := by decide
/-- ... and the injected state at tick 2 has i0 = 5 with its valid flag raised, i1 untouched -/
example :
    let vm := injected exShape [⟨false, 2, .inReg 0, 5⟩, ⟨true, 3, .inReg 1, 44⟩] 2 (initVm exShape exTopo)
    read vm (.inReg 0) = some 5 ∧ read vm (.inValid 0) = some 1 ∧ read vm (.inReg 1) = some 0 := by decide

end Sim

end BMV.Props.C15
