/-
  C01 — Generated processor HDL executes programs exactly as the ISA simulator does.

  Property theorems only.  Models: BMV/Isa.lean (the Go simulator: VM.Step + Simulate of each
  opcode, slicing the instruction string like the Go code) and BMV/Rtl.lean (one clock of the
  emitted Verilog: nested `case` on part-selects `current_instruction[hi:lo]`).  Both are hand
  written and tied to the code on every run (tools/props/c01.py): Isa against the real
  procbuilder.VM step by step, Rtl against the emitted Verilog text executed under the
  Verilog-subset semantics BMV.Vlog clock by clock.

  Proved here, for EVERY architecture in `ha` mode with automatic word size (any R, N, M, O, any
  opcode subset, any program, any port stimulus), opcode class by opcode class:
    * the opcodes that retire in the clock they are selected in (`Refine.lockstepOps`): one clock
      of the hardware model and one step of the simulator model take related states to related
      states (`rtl_refines_isa`); along a run whose steps are comparable the hardware state after
      every prefix of the stimulus is related to some simulator state (`trace_eq`);
    * the two-tick opcodes addp / multp / divp: each tick keeps the relation and the pipeline
      relation `PipeRel` (`rtl_refines_isa_pipelined`), the one-clock opcodes leave `PipeRel`
      alone (`pipeline_kept_by_one_clock_opcodes`); runs mixing both (`trace_eq_pipelined`);
    * `ro2rri`, one simulator step against two clocks (`rtl_refines_isa_romread`); runs over all
      three classes, from retire point to retire point (`trace_eq_romread`);
    * the OnlyDestRegs / OnlySrcRegs pruning changes nothing when the recorded register sets cover
      the program (`onlyDestRegs_sound`).
  The two handshake opcodes i2rw / r2owa are C04's subject.  The hypotheses are the property's
  "in-range operands": jump targets inside the program, no division by zero, the program never runs
  off the end of the ROM, register size at which both back-ends implement the opcode.
-/
import BMV.Proofs.Refine
import BMV.Proofs.RefinePipe
import BMV.Proofs.RefineRom
namespace BMV.Props.C01
open BMV BMV.Bits BMV.Refine

/-- decoding agrees: the opcode selector `current_instruction[W-1:W-opBits]` and every operand
    part-select of the HDL read the same numbers as the simulator's `get_id(instr[a:b])` -/
theorem decode_agree (w : Bits) (W ob off wd : Nat) (hW : w.length = W) (hfit : ob + off + wd ≤ W) :
    getId (w.take ob) = Rtl.part (getId w) W 0 ob ∧
    Isa.field (w.drop ob) off wd = Rtl.part (getId w) W (ob + off) wd :=
  ⟨opcode_eq_part w W ob hW, field_eq_part w W ob off wd hW hfit⟩

/-- one instruction: hardware clock and simulator step preserve the relation
    (pc, register file, output-port values) -/
theorem rtl_refines_isa (a : Arch) (prog : List Bits) (s s' : VmState) (h : RtlState) (p : PortsIn)
    (w : Bits) (op : String) (H : StepHyp a prog s h p w op s') :
    Rel s' (Rtl.cycle a prog h p) :=
  refine_lockstep H

/-- the environment drives the input ports and the handshake lines before each step -/
def setEnv (s : VmState) (p : PortsIn) : VmState :=
  { s with inputs := p.inputs, inValid := p.inValid, outRecv := p.outRecv }

/-- a run: the stimulus at each step, and the facts that make the step comparable -/
inductive GoodRun (a : Arch) (prog : List Bits) : VmState → RtlState → List PortsIn → Prop
  | nil (s h) : GoodRun a prog s h []
  | cons (s s' h p ps w op) :
      StepHyp a prog s h p w op s' →
      s'.regs.length = 2 ^ a.r → s'.outputs.length = a.m →
      GoodRun a prog (setEnv s' (ps.headD p)) (Rtl.cycle a prog h p) ps →
      GoodRun a prog s h (p :: ps)

/-- equal traces: along every good run the two worlds are related after every retired instruction -/
theorem trace_eq (a : Arch) (prog : List Bits) (s : VmState) (h : RtlState) (ps : List PortsIn)
    (hrel : Rel s h) (hrun : GoodRun a prog s h ps) :
    ∀ k, k ≤ ps.length →
      ∃ sk hk, Rel sk hk ∧ hk = (ps.take k).foldl (fun st p => Rtl.cycle a prog st p) h := by
  suffices ∀ k, k ≤ ps.length → ∃ sk, Rel sk ((ps.take k).foldl (fun st p => Rtl.cycle a prog st p) h) from
    fun k hk => (this k hk).elim fun sk r => ⟨sk, _, r, rfl⟩
  induction hrun with
  | nil s h => exact fun k _ => ⟨s, by rw [List.take_nil]; exact hrel⟩
  | cons s s' h p ps w op H _ _ _ ih => exact prefix_cons hrel (ih (refine_lockstep H :))

/-! ### the two-tick ("pipelined") opcodes addp / multp / divp

Both back-ends spend two ticks on these instructions, so the comparison stays tick by tick; the
relation gains `PipeRel` (the simulator's phase flag = the hardware's `<op>_<tag>_state` register;
in the second tick the latched `input_a` / `input_b` are the registers the instruction names). -/

/-- one tick of a pipelined opcode preserves both relations -/
theorem rtl_refines_isa_pipelined (a : Arch) (prog : List Bits) (s s' : VmState) (h : RtlState) (p : PortsIn)
    (w : Bits) (op : String) (H : PipeHyp a prog s h p w op s') :
    Rel s' (Rtl.cycle a prog h p) ∧ PipeRel a prog s' (Rtl.cycle a prog h p) :=
  refine_pipe H

/-- the one-clock opcodes leave the pipeline relation alone -/
theorem pipeline_kept_by_one_clock_opcodes (a : Arch) (prog : List Bits) (s s' : VmState) (h : RtlState)
    (p : PortsIn) (w : Bits) (op : String) (H : StepHyp a prog s h p w op s') (hp : PipeRel a prog s h) :
    PipeRel a prog s' (Rtl.cycle a prog h p) :=
  lockstep_keeps_pipe H hp

/-- it holds initially: `VM.Init` against the reset hardware -/
theorem pipeRel_init (a : Arch) (prog : List Bits) : PipeRel a prog (Isa.init a) (Rtl.reset a) :=
  pipeRel_idle rfl ⟨rfl, rfl, rfl⟩

/-- runs over programs that mix one-clock and pipelined opcodes -/
inductive GoodRunP (a : Arch) (prog : List Bits) : VmState → RtlState → List PortsIn → Prop
  | nil (s h) : GoodRunP a prog s h []
  | lock (s s' h p ps w op) :
      StepHyp a prog s h p w op s' →
      GoodRunP a prog (setEnv s' (ps.headD p)) (Rtl.cycle a prog h p) ps →
      GoodRunP a prog s h (p :: ps)
  | pipe (s s' h p ps w op) :
      PipeHyp a prog s h p w op s' →
      GoodRunP a prog (setEnv s' (ps.headD p)) (Rtl.cycle a prog h p) ps →
      GoodRunP a prog s h (p :: ps)

/-- equal traces, tick by tick, for programs over the one-clock AND the pipelined opcodes -/
theorem trace_eq_pipelined (a : Arch) (prog : List Bits) (s : VmState) (h : RtlState) (ps : List PortsIn)
    (hrel : Rel s h) (hprel : PipeRel a prog s h) (hrun : GoodRunP a prog s h ps) :
    ∀ k, k ≤ ps.length →
      ∃ sk hk, Rel sk hk ∧ PipeRel a prog sk hk ∧ hk = (ps.take k).foldl (fun st p => Rtl.cycle a prog st p) h := by
  suffices ∀ k, k ≤ ps.length → ∃ sk, Rel sk ((ps.take k).foldl (fun st p => Rtl.cycle a prog st p) h) ∧
      PipeRel a prog sk ((ps.take k).foldl (fun st p => Rtl.cycle a prog st p) h) from
    fun k hk => (this k hk).elim fun sk r => ⟨sk, _, r.1, r.2, rfl⟩
  induction hrun with
  | nil s h => exact fun k _ => ⟨s, by rw [List.take_nil]; exact ⟨hrel, hprel⟩⟩
  | lock s s' h p ps w op H _ ih =>
    exact prefix_cons (R := fun s h => Rel s h ∧ PipeRel a prog s h) ⟨hrel, hprel⟩
      (ih (refine_lockstep H :) (lockstep_keeps_pipe H hprel :))
  | pipe s s' h p ps w op H _ ih =>
    exact prefix_cons (R := fun s h => Rel s h ∧ PipeRel a prog s h) ⟨hrel, hprel⟩
      (ih (refine_pipe H).1 (refine_pipe H).2)

/-- Enabling the hardware optimisation derived from the program never changes behaviour: with any
    register sets that contain what the assembler records for the program (`destRegs`; the
    generator keeps every arm when nothing was recorded for an opcode), the pruned processor does
    in every clock exactly what the unpruned one does, in every state whose pc is inside the
    program and for every port stimulus. -/
theorem onlyDestRegs_sound (a : Arch) (prog : List Bits) (used : String → List Nat) (s : RtlState) (p : PortsIn)
    (hused : ∀ op k, k ∈ Rtl.destRegs a prog op → k ∈ used op)
    (husedS : ∀ op k, k ∈ Rtl.srcRegs a prog op → k ∈ used (op ++ "/src"))
    (hws : a.wordSize = 0) (hlen : ∀ w ∈ prog, w.length = a.maxWord) (hpc : s.pc < prog.length) :
    Rtl.cycleOpt a used prog s p = Rtl.cycle a prog s p := by
  have hmem : prog[s.pc] ∈ prog := List.getElem_mem hpc
  simp only [Rtl.cycleOpt, Rtl.cycle, fetch_eq (List.getElem?_eq_getElem hpc),
    mainBlockOpt_eq a prog used s p hused husedS hws hmem (hlen _ hmem)]

/-! ### `ro2rri`: the ROM read as data (program words and the data that follows them)

The simulator retires the instruction in one step, the hardware takes two clocks (address out, word
in), so the comparison is at the retire point: after the second clock.  `Isa.stepRom` / `Rtl.cycleRom`
are the models with the ROM contents (program ++ data) as a parameter; on every other opcode they
are `Isa.step` / `Rtl.cycle`. -/

/-- one `ro2rri`: the first clock moves no architectural register, after the second the two worlds
    are related again (the destination register holds the low `min Rsize W` bits of the addressed
    ROM cell in both) and the hardware's flag is back down -/
theorem rtl_refines_isa_romread (a : Arch) (prog data : List Bits) (s : VmState) (h : RtlState) (w : Bits)
    (H : RomHyp a prog data s h w) (p1 p2 : PortsIn) :
    ∃ s', Isa.stepRom a prog data s = some s' ∧
      (Rtl.cycleRom a prog data h p1).pc = h.pc ∧
      (Rtl.cycleRom a prog data h p1).regs = h.regs ∧
      (Rtl.cycleRom a prog data h p1).auxo = h.auxo ∧
      Rel s' (Rtl.cycleRom a prog data (Rtl.cycleRom a prog data h p1) p2) ∧
      (Rtl.cycleRom a prog data (Rtl.cycleRom a prog data h p1) p2).romReady = false :=
  refine_rom H p1 p2

/-- the relation carried from retire point to retire point -/
def Sim (a : Arch) (prog : List Bits) (s : VmState) (h : RtlState) : Prop :=
  Rel s h ∧ PipeRel a prog s h ∧ h.romReady = false

theorem sim_init (a : Arch) (prog : List Bits) (hr : Rel (Isa.init a) (Rtl.reset a)) :
    Sim a prog (Isa.init a) (Rtl.reset a) := ⟨hr, pipeRel_init a prog, rfl⟩

/-- runs over programs that mix one-clock, pipelined and ROM-reading opcodes: from retire point to
    retire point (one clock, one tick of two, two clocks) -/
inductive RunR (a : Arch) (prog data : List Bits) : VmState → RtlState → VmState → RtlState → Prop
  | nil (s h) : RunR a prog data s h s h
  | lock (s s' h p p' w op sN hN) :
      StepHyp a prog s h p w op s' →
      RunR a prog data (setEnv s' p') (Rtl.cycleRom a prog data h p) sN hN →
      RunR a prog data s h sN hN
  | pipe (s s' h p p' w op sN hN) :
      PipeHyp a prog s h p w op s' →
      RunR a prog data (setEnv s' p') (Rtl.cycleRom a prog data h p) sN hN →
      RunR a prog data s h sN hN
  | rom (s s' h p1 p2 p' w sN hN) :
      RomHyp a prog data s h w → Isa.stepRom a prog data s = some s' →
      RunR a prog data (setEnv s' p') (Rtl.cycleRom a prog data (Rtl.cycleRom a prog data h p1) p2) sN hN →
      RunR a prog data s h sN hN

/-- equal traces at every retire point, for programs over the whole co-implemented one-processor
    opcode set (one-clock, pipelined, ROM-reading) -/
theorem trace_eq_romread (a : Arch) (prog data : List Bits) (s sN : VmState) (h hN : RtlState)
    (hsim : Sim a prog s h) (hrun : RunR a prog data s h sN hN) : Sim a prog sN hN := by
  induction hrun with
  | nil s h => exact hsim
  | lock s s' h p p' w op sN hN H _ ih =>
    obtain ⟨_, hp, hrd⟩ := hsim
    rw [(rom_eq_plain data p H.wlen H.rel H.fetch H.decode
      (ne_of_mem_of_not_mem H.lock (by decide +kernel))).2] at ih
    exact ih ⟨(refine_lockstep H :), (lockstep_keeps_pipe H hp :), (cycle_leaves_rom a prog h p).1.trans hrd⟩
  | pipe s s' h p p' w op sN hN H _ ih =>
    rw [(rom_eq_plain data p H.wlen H.rel H.fetch H.decode
      (ne_of_mem_of_not_mem H.pipe (by decide +kernel))).2] at ih
    exact ih ⟨(refine_pipe H).1, (refine_pipe H).2, (cycle_leaves_rom a prog h p).1.trans hsim.2.2⟩
  | rom s s' h p1 p2 p' w sN hN H hs _ ih =>
    obtain ⟨s2, hs2, _, _, _, hr2, hrd2⟩ := refine_rom H p1 p2
    cases hs.symm.trans hs2
    exact ih ⟨hr2, (rom_keeps_pipe H hsim.2.1 p1 p2 hs :), hrd2⟩

/-! ### non-vacuity: a concrete machine and program satisfy every hypothesis, step after step -/

def demoArch : Arch :=
  { rsize := 8, r := 1, n := 1, m := 1, l := 0, o := 2, ops := ["add", "inc", "j", "r2o", "rset"] }

/-- rset r0 5 ; inc r1 ; add r0 r1 ; j 1  -/
def demoProg : List Bits :=
  [ofString01 "100000000101", ofString01 "001100000000", ofString01 "000010000000", ofString01 "010010000000"]

theorem demoArch_maxWord : demoArch.maxWord = 12 := by decide +kernel
example : demoArch.maxWord = 12 := demoArch_maxWord

/-- both models, run for six instructions, agree on pc and registers at every step -/
example :
    let run := fun (k : Nat) =>
      (List.range k).foldl (fun (st : Option VmState × RtlState) _ =>
        (st.1.bind (Isa.step demoArch demoProg), Rtl.cycle demoArch demoProg st.2 {})) 
        (some (Isa.init demoArch), Rtl.reset demoArch)
    (List.range 7).all (fun k =>
      match run k with
      | (some s, h) => s.pc == h.pc && s.regs == h.regs
      | _ => false) = true := by decide +kernel

/-- pruning is not a no-op: with a register set that misses the register the program increments,
    the optimised processor differs from the plain one (so `onlyDestRegs_sound` says something) -/
example : Rtl.cycleOpt demoArch (fun _ => []) demoProg { Rtl.reset demoArch with pc := 1 } {} ≠
    Rtl.cycle demoArch demoProg { Rtl.reset demoArch with pc := 1 } {} := by decide +kernel

example : Rtl.destRegs demoArch demoProg "inc" = [1] ∧ Rtl.destRegs demoArch demoProg "rset" = [0] := by decide +kernel

/-- the hypotheses of `rtl_refines_isa` are satisfiable: the first instruction of the demo program -/
example : ∃ s', StepHyp demoArch demoProg { Isa.init demoArch with inputs := [0] } (Rtl.reset demoArch)
    { inputs := [0] } (ofString01 "100000000101") "rset" s' := by
  refine ⟨{ Isa.init demoArch with pc := 1, regs := [5, 0], inputs := [0] }, ?_⟩
  exact {
    mode := rfl, ws := rfl, wlen := demoArch_maxWord.symm, regsLen := by decide +kernel, inLen := by decide +kernel,
    outLen := by decide +kernel, rel := ⟨rfl, rfl, rfl⟩, env := rfl, fetch := by decide +kernel, decode := by decide +kernel,
    lock := by decide +kernel, width := by simp [coWidth, Isa.stdSize, demoArch], step := by decide +kernel, noFall := by decide +kernel,
    jumpIn := by decide +kernel }


/-- the pipelined opcodes, concretely: `rset r0 6; rset r1 7; multp r0 r1; j 3` — six ticks of both
    models agree on pc and registers (the multiplication takes ticks 3 and 4) -/
def demoArchP : Arch :=
  { rsize := 8, r := 1, n := 0, m := 0, l := 0, o := 2, ops := ["j", "multp", "rset"] }
def demoProgP : List Bits :=
  [ofString01 "10000000110", ofString01 "10100000111", ofString01 "01010000000", ofString01 "00110000000"]

theorem demoArchP_maxWord : demoArchP.maxWord = 11 := by decide +kernel
example : demoArchP.maxWord = 11 := demoArchP_maxWord
example :
    let run := fun (k : Nat) =>
      (List.range k).foldl (fun (st : Option VmState × RtlState) _ =>
        (st.1.bind (Isa.step demoArchP demoProgP), Rtl.cycle demoArchP demoProgP st.2 {}))
        (some (Isa.init demoArchP), Rtl.reset demoArchP)
    (List.range 7).map (fun k =>
      match run k with
      | (some s, h) => (s.pc == h.pc && s.regs == h.regs, s.regs, s.phase)
      | _ => (false, [], [])) =
    [(true, [0, 0], []), (true, [6, 0], []), (true, [6, 7], []), (true, [6, 7], ["multp"]),
     (true, [42, 7], []), (true, [42, 7], []), (true, [42, 7], [])] := by decide +kernel

/-- the premises of `rtl_refines_isa_pipelined` are satisfiable: first tick of the `multp` above -/
example : ∃ s', PipeHyp demoArchP demoProgP { Isa.init demoArchP with pc := 2, regs := [6, 7] }
    { Rtl.reset demoArchP with pc := 2, regs := [6, 7] } {} (ofString01 "01010000000") "multp" s' := by
  refine ⟨{ Isa.init demoArchP with pc := 2, regs := [6, 7], phase := ["multp"] }, ?_⟩
  exact {
    ws := rfl, wlen := demoArchP_maxWord.symm, rel := ⟨rfl, rfl, rfl⟩,
    prel := pipeRel_idle rfl ⟨rfl, rfl, rfl⟩,
    fetch := by decide +kernel, decode := by decide +kernel, pipe := by decide +kernel, width := by decide +kernel,
    step := by decide +kernel, noFall := by decide +kernel }

/-- `ro2rri`, concretely: `rset r1 4; ro2rri r0 r1; j 2` with two data words after the program —
    cell 4 is the second data word; the hardware takes one clock more than the simulator -/
def demoArchR : Arch :=
  { rsize := 8, r := 1, n := 0, m := 0, l := 0, o := 3, ops := ["j", "ro2rri", "rset"] }
def demoProgR : List Bits :=
  [ofString01 "10100000100", ofString01 "01010000000", ofString01 "00010000000"]
def demoDataR : List Bits := [ofString01 "00000000111", ofString01 "01011111110"]

theorem demoArchR_maxWord : demoArchR.maxWord = 11 := by decide +kernel
example : demoArchR.maxWord = 11 := demoArchR_maxWord
example :
    (((some (Isa.init demoArchR)).bind (Isa.stepRom demoArchR demoProgR demoDataR)).bind
      (Isa.stepRom demoArchR demoProgR demoDataR)).map (fun s => (s.pc, s.regs)) = some (2, [254, 4]) := by decide +kernel
example :
    let c := fun h => Rtl.cycleRom demoArchR demoProgR demoDataR h {}
    ((c (Rtl.reset demoArchR)).regs, (c (c (Rtl.reset demoArchR))).pc, (c (c (Rtl.reset demoArchR))).romReady,
     (c (c (c (Rtl.reset demoArchR)))).pc, (c (c (c (Rtl.reset demoArchR)))).regs) =
    ([0, 4], 1, true, 2, [254, 4]) := by decide +kernel

/-- the premises of `rtl_refines_isa_romread` are satisfiable: the `ro2rri` above -/
example : RomHyp demoArchR demoProgR demoDataR { Isa.init demoArchR with pc := 1, regs := [0, 4] }
    { Rtl.reset demoArchR with pc := 1, regs := [0, 4] } (ofString01 "01010000000") :=
  { ws := rfl, wlen := by rw [demoArchR_maxWord]; decide +kernel, regsLen := by decide +kernel, rel := ⟨rfl, rfl, rfl⟩, ready := rfl,
    fetch := by decide +kernel, decode := by decide +kernel, rsize := by decide +kernel, fits := by decide +kernel,
    inRom := by
      intro loc hl
      have : loc = 4 := by
        have h4 : ({ Isa.init demoArchR with pc := 1, regs := [0, 4] } : VmState).regs[
            Isa.field ((ofString01 "01010000000").drop demoArchR.opBits) demoArchR.r demoArchR.r]? = some 4 := by decide +kernel
        rw [h4] at hl; exact (Option.some.inj hl).symm
      subst this; decide +kernel,
    noFall := by decide +kernel }

end BMV.Props.C01
