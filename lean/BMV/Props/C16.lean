/-
  C16 — Every machine a front-end emits is well formed.

  Property theorems only.  Model: BMV/WfBM.lean (the machine `BM`, the independent validator
  `WfBM`, the control-flow closure `CfClosed`), BMV/Basm.lean (the model assembler of the C05
  subset), BMV/Isa.lean (the simulator's step, C01's model).  Lemmas: BMV/Proofs/WfBM.lean,
  BMV/Proofs/Basm.lean.  Reused: BMV.Props.C03 (fixed width, round trip, range rejection),
  BMV.Props.C10 / Proofs.Topology (well-formedness of the bond graph under the API edits).

  What is proved
    * the validator is SOUND for what the simulator relies on (`wfbm_decode_safe`,
      `wfbm_sim_safe`, `wfbm_run_safe`): on a validated processor `Isa.step` never fails for a
      decoding or indexing reason — the opcode index is in range, every register / port index it
      computes is inside the vector it indexes — and, when jump targets are closed, never fails
      at all, for every environment and for ever;
    * the model assembler only emits validated machines (`assemble_wf`) and refuses operands that
      cannot fit (`assemble_rejects_overflow`, `mkcp_rejects_overflow`);
    * `Needed_bits` is exact at the power-of-two boundaries.
  That the model assembler is the real one is C05's exact structural tie; for the other front-ends
  the validator's verdict is per emitted instance (tools/props/c16.py).
-/
import BMV.Proofs.WfBM
import BMV.Proofs.Basm
namespace BMV.Props.C16
open BMV BMV.Bits BMV.WfBM BMV.Basm

/-- what the environment may do between two steps: present new values / flags on the ports
    (vectors of the architecture's size) -/
def withEnv (s : VmState) (ins : List Nat) (iv orr : List Bool) : VmState :=
  { s with inputs := ins, inValid := iv, outRecv := orr }

structure EnvOk (a : Arch) (ins : List Nat) (iv orr : List Bool) : Prop where
  ins : ins.length = a.n
  iv : iv.length = a.n
  orr : orr.length = a.m

theorem inv_withEnv {a : Arch} {B : Nat} {s : VmState} {ins : List Nat} {iv orr : List Bool}
    (h : VmInv a B s) (he : EnvOk a ins iv orr) : VmInv a B (withEnv s ins iv orr) :=
  ⟨h.pc, h.regs, he.ins, he.iv, h.inRecv, h.outputs, h.outValid, he.orr⟩

/-- the hypotheses under which `BMV.Isa` speaks for the processor: harvard mode, a register size
    the Go arithmetic supports, opcodes whose simulation has no data-dependent failure -/
structure Simulable (cp : CP) : Prop where
  mode : cp.arch.mode = .ha
  std : Isa.stdSize cp.arch.rsize = true
  ops : ∀ op ∈ cp.arch.ops, op ∈ safeOps

/-- SOUNDNESS OF THE VALIDATOR, decoding half: on a processor of a validated machine a step from
    any state with well-sized vectors and a program counter inside the program succeeds — the
    opcode decodes, every register and port index is in range — and leaves well-sized vectors.
    (The only thing that can still go wrong later is a program counter beyond the program, which
    needs `CfClosed`: next theorem.) -/
theorem wfbm_decode_safe (bm : BM) (h : WfBM bm = true) (cp : CP) (hcp : cp ∈ bm.cps) (hs : Simulable cp)
    (s : VmState) (hpc : s.pc ≤ cp.prog.length)
    (hinv : VmInv cp.arch (max cp.prog.length (2 ^ cp.arch.o)) s) :
    ∃ s', Isa.step cp.arch cp.prog s = some s' ∧ VmInv cp.arch (max cp.prog.length (2 ^ cp.arch.o)) s' := by
  refine step_safe_gen hs.std hs.ops (cp_words_ok h hcp) ?_ (Nat.le_max_left _ _) hpc hinv
  intro w _ _
  exact Nat.le_trans (Nat.le_of_lt (Isa.field_lt _ _ _)) (Nat.le_max_right _ _)

/-- SOUNDNESS OF THE VALIDATOR: on a processor of a validated, control-flow-closed machine a step
    from any state satisfying the shape invariant succeeds and re-establishes the invariant. -/
theorem wfbm_sim_safe (bm : BM) (h : WfBM bm = true) (hcf : CfClosed bm = true) (cp : CP) (hcp : cp ∈ bm.cps)
    (hs : Simulable cp) (s : VmState) (hinv : VmInv cp.arch cp.prog.length s) :
    ∃ s', Isa.step cp.arch cp.prog s = some s' ∧ VmInv cp.arch cp.prog.length s' := by
  refine step_safe_gen hs.std hs.ops (cp_words_ok h hcp) ?_ (Nat.le_refl _) hinv.pc hinv
  intro w hw hop
  simp only [CfClosed, List.all_eq_true] at hcf
  exact jz_target_closed hs.mode (hcf cp hcp w hw) hop

/-- the simulation of one processor under an arbitrary environment stream -/
def runEnv (a : Arch) (prog : List Bits) (env : Nat → List Nat × List Bool × List Bool) : Nat → Option VmState
  | 0 => some (Isa.init a)
  | t + 1 => (runEnv a prog env t).bind fun s => Isa.step a prog (withEnv s (env t).1 (env t).2.1 (env t).2.2)

/-- … lifted to every finite run from the initial state, under every environment: the simulator
    never returns an error on a validated, control-flow-closed machine. -/
theorem wfbm_run_safe (bm : BM) (h : WfBM bm = true) (hcf : CfClosed bm = true) (cp : CP) (hcp : cp ∈ bm.cps)
    (hs : Simulable cp) (env : Nat → List Nat × List Bool × List Bool)
    (henv : ∀ t, EnvOk cp.arch (env t).1 (env t).2.1 (env t).2.2) (t : Nat) :
    ∃ s, runEnv cp.arch cp.prog env t = some s ∧ VmInv cp.arch cp.prog.length s := by
  induction t with
  | zero => exact ⟨_, rfl, inv_init _ _⟩
  | succ t ih =>
    obtain ⟨s, hs1, hs2⟩ := ih
    obtain ⟨s', h1, h2⟩ := wfbm_sim_safe bm h hcf cp hcp hs _ (inv_withEnv hs2 (henv t))
    exact ⟨s', by simp [runEnv, hs1, h1], h2⟩

/-- every machine the model assembler emits — with or without the `entry` repair — validates -/
theorem assemble_wf (src : Source) (fix : Bool) (bm : BM) (h : assemble src fix = .ok bm) (hsz : SizeOk src) :
    WfBM bm = true := Basm.assemble_wf h hsz

/-- an operand that cannot fit its field makes the processor unassemblable: a number that needs
    more bits than the field has (immediate ≥ 2^Rsize; jump target / ROM address ≥ 2^O where
    O = neededBits(#lines) is derived from the very same body).  Generic over the layout table. -/
theorem mkcp_rejects_overflow (rsize : Nat) (rs : List RLine) (r : RLine) (hr : r ∈ rs)
    (pre post : List Arg) (n : Nat) (hargs : r.args = pre ++ .num n :: post)
    (fs : List FieldKind) (f : FieldKind) (hlay : layout r.op = some fs) (hlen : lenientArity r.op = false)
    (hf : fs[pre.length]? = some f) (hbig : ¬ n < 2 ^ (mkArch rsize rs).width f) :
    ∀ cp, mkCP rsize rs ≠ .ok cp :=
  Basm.mkCP_rejects_overflow hr pre post n hargs fs f hlay hlen hf hbig

/-- … and so is the whole source: if the body of some processor of `src` has such a line,
    `assemble` answers with an error, never with a machine. -/
theorem assemble_rejects_overflow (src : Source) (fix : Bool) (rs : List RLine)
    (hbody : ∀ ss, mapE (secPrep fix src) src.sections = .ok ss → ∃ c ∈ src.procs, cpBody ss c = .ok rs)
    (r : RLine) (hr : r ∈ rs) (pre post : List Arg) (n : Nat) (hargs : r.args = pre ++ .num n :: post)
    (fs : List FieldKind) (f : FieldKind) (hlay : layout r.op = some fs) (hlen : lenientArity r.op = false)
    (hf : fs[pre.length]? = some f)
    (hbig : ∀ rsize, src.rsize = some rsize → ¬ n < 2 ^ (mkArch rsize rs).width f) :
    ∀ bm, assemble src fix ≠ .ok bm :=
  Basm.assemble_rejects_overflow hbody hr pre post n hargs fs f hlay hlen hf hbig

/-- `Needed_bits`: the least width that addresses n items (1 ≤ n ≤ 2^63) -/
theorem neededBits_spec (n : Nat) (h1 : 1 ≤ n) (h2 : n ≤ 2 ^ 63) :
    1 ≤ neededBits n ∧ neededBits n ≤ 63 ∧ n ≤ 2 ^ neededBits n ∧ ∀ j, 1 ≤ j → j < neededBits n → 2 ^ j < n :=
  Basm.neededBits_spec h1 h2

/-- boundary: regNum + 1 = 2^k registers (or #lines = 2^k) need exactly k bits … -/
theorem neededBits_pow2 (k : Nat) (h1 : 1 ≤ k) (h2 : k ≤ 63) : neededBits (2 ^ k) = k := Basm.neededBits_pow2 h1 h2

/-- … and one more needs k + 1 -/
theorem neededBits_pow2_succ (k : Nat) (h1 : 1 ≤ k) (h2 : k < 63) : neededBits (2 ^ k + 1) = k + 1 :=
  Basm.neededBits_pow2_succ h1 h2

/-! ### non-vacuity -/

def demoSrc : Source :=
  { rsize := some 8, iomode := some .async,
    sections := [{ name := "prog", lines :=
      [ { op := "entry", args := [.sym "top"] },
        { labels := ["top"], op := "mov", args := [.reg 3, .num 255] },
        { op := "inc", args := [.reg 0] },
        { op := "mov", args := [.out 0, .reg 0] },
        { op := "jz", args := [.reg 3, .sym "top"] },
        { op := "j", args := [.sym "top"] } ] }],
    cps := [{ name := "cpu", romcode := "prog" }],
    ioatts := [{ name := "o", cp := "cpu", isInput := false, index := 0 }, { name := "o", cp := "bm", isInput := false, index := 0 }] }

def demoBM : BM := match assemble demoSrc with | .ok bm => bm | .error _ => default

example : (assemble demoSrc).toOption.isSome = true := by decide +kernel
example : WfBM demoBM = true := by decide +kernel
example : CfClosed demoBM = true := by decide +kernel
example : demoBM.cps.map (fun cp => [cp.arch.r, cp.arch.n, cp.arch.m, cp.arch.o, cp.prog.length]) = [[2, 0, 1, 3, 5]] := by decide +kernel
example : demoBM.cps.map (fun cp => cp.arch.ops) = [["inc", "j", "jz", "r2o", "rset"]] := by decide +kernel
-- the same source with an immediate one too large is refused
example : (assemble { demoSrc with sections := [{ name := "prog", lines :=
      [ { op := "entry", args := [.sym "top"] }, { labels := ["top"], op := "mov", args := [.reg 3, .num 256] } ] }] }).toOption.isNone = true := by decide +kernel
-- a machine the validator refuses: a ROM word one bit too long (what the unrepaired C03 assembler emitted)
example : WfBM { demoBM with cps := demoBM.cps.map fun cp => { cp with prog := cp.prog.map fun w => w ++ [false] } } = false := by decide +kernel
-- … and one with an input index beyond N
example : wordOk { rsize := 8, r := 1, n := 1, m := 0, l := 0, o := 1, ops := ["i2r"] } (ofString01 "001") = false := by decide +kernel
example : neededBits 8 = 3 ∧ neededBits 9 = 4 ∧ neededBits 1 = 1 := by decide +kernel

end BMV.Props.C16
