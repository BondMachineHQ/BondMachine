/-
  C06 — Mapping a fragment graph onto more or fewer processors keeps its result.

  Property theorems only (model: BMV/Frag.lean, a hand-written model of basm's fragmentComposer,
  links.go, NextResource/ReplaceArg and the ioatt pairing, tied to the code on every run by the
  correspondence check of tools/props/c06.py; helper lemmas: BMV/Proofs/Frag.lean).

  Statement (properties.jsonl): a computation described as a graph of code fragments joined by links
  produces the same output values for the same input values whether each fragment instance is placed
  on its own processor, all instances are collapsed onto one processor, or any partition in between
  is chosen; in every case the result equals the direct evaluation of the dataflow graph.
    forall DAG of fragment instances . forall partition into CPs (topologically ordered collapse
    lists) . forall input vectors : out(sim(basm(G,partition))) == eval(G)

  What is proved, and how the statement is split:
  * `temp_fresh`, `temp_subst_injective`   the registers chosen for the temporaries clash with nothing
  * `collapse_seq`                         one collapsed section = dataflow evaluation of its list
  * `compose_correct`                      SAFETY of the whole composed network: under the channel
                                           assumption (made explicit in `Frag.Consistent`: C04's
                                           exactly-once in-order delivery) every behaviour of the
                                           network shows eval(G) on every BM output
  * `partition_irrelevant`                 corollary: all partitions agree
  * `io_renumbering_injective`             the link → IO renumbering gives different ports of a list
                                           different output, input and temporary indices
  * LIVENESS (the network actually produces the outputs) does NOT hold for the tool: the composer
    emits the blocking `mov oK, r` of an instance right after its body, and two CPs that exchange
    values in crossing orders wait for each other for ever.  `compose_live_full` keeps the full
    statement visible; `compose_live_counterexample` refutes it on a four-instance graph (the same
    graph dead-locks in the real simulator, see docs/C06.md); `compose_correct` is therefore the
    safety half only, and the check reports the dead-lock as a finding.
-/
import BMV.Proofs.Frag

/-! concrete graphs used by the non-vacuity examples and by the dead-lock counterexample -/
namespace BMV.Frag.Ex
open BMV.Frag

def fInc : Fragment := { name := "inc", resin := [0], resout := [0], body := [.inc 0] }
def fDbl : Fragment := { name := "dbl", resin := [0], resout := [0], body := [.add 0 0] }

/-- e0 → A(inc) → B(dbl) → e0 and A → C(inc) → e1: a shared producer -/
def gEx : Graph :=
  { w := 16,
    insts := [⟨"A", fInc⟩, ⟨"B", fDbl⟩, ⟨"C", fInc⟩],
    links := [⟨"l0", .ext 0, .inp 0 0⟩, ⟨"l1", .out 0 0, .inp 1 0⟩, ⟨"l2", .out 0 0, .inp 2 0⟩,
              ⟨"l3", .out 1 0, .ext 0⟩, ⟨"l4", .out 2 0, .ext 1⟩] }

def ptOne : Part := [⟨"cp0", [0, 1, 2]⟩]
def ptTwo : Part := [⟨"cp0", [0, 2]⟩, ⟨"cp1", [1]⟩]

/-- crossing exchange: A1→B2, A2→B1 with A1, A2 collapsed on one CP and B1, B2 on the other: both
    lists are topologically ordered, the graph is a DAG -/
def gX : Graph :=
  { w := 16,
    insts := [⟨"A1", fInc⟩, ⟨"A2", fDbl⟩, ⟨"B1", fInc⟩, ⟨"B2", fDbl⟩],
    links := [⟨"l0", .ext 0, .inp 0 0⟩, ⟨"l1", .ext 1, .inp 1 0⟩, ⟨"l2", .out 0 0, .inp 3 0⟩,
              ⟨"l3", .out 1 0, .inp 2 0⟩, ⟨"l4", .out 2 0, .ext 0⟩, ⟨"l5", .out 3 0, .ext 1⟩] }
def ptX : Part := [⟨"cp0", [0, 1]⟩, ⟨"cp1", [2, 3]⟩]
def ptSep : Part := [⟨"c0", [0]⟩, ⟨"c1", [1]⟩, ⟨"c2", [2]⟩, ⟨"c3", [3]⟩]

/-- a round of `gEx` on two CPs for input 3 -/
def σEx : End → Nat
  | .bmIn 0 => 3
  | .bmIn _ => 0
  | .cpIn 0 _ => 3
  | .cpOut 0 0 => 4
  | .cpOut 0 1 => 5
  | .cpIn 1 _ => 4
  | .cpOut 1 _ => 8
  | .bmOut 0 => 8
  | .bmOut _ => 5
  | _ => 0

end BMV.Frag.Ex

namespace BMV.Props.C06
open BMV.Frag BMV.Frag.Ex

/-- **temp_fresh**: the registers `NextResource` picks for the temporaries t0, t1, … of a composed
    section are pairwise distinct and occur in no line of the section before the replacement — in
    particular in no `mov` of a `resin`/`resout` register and in no fragment body of the section. -/
theorem temp_fresh (g : Graph) (l : List Nat) :
    (tempRegs (secSym g l)).Nodup ∧
    (∀ n ∈ tempRegs (secSym g l), n ∉ usedR (secSym g l)) ∧
    (∀ n ∈ tempRegs (secSym g l), ∀ i ∈ l, ∀ ins ∈ (g.frag i).body, n ∉ ins.regs) := by
  obtain ⟨h1, h2⟩ := allocTemps_fresh (countTemps (secSym g l)) (usedR (secSym g l))
  refine ⟨h1, h2, ?_⟩
  intro n hn i hi ins hins hmem
  apply h2 n hn
  apply mem_usedR
  unfold secRegs secSym
  apply List.mem_flatMap.mpr
  refine ⟨.op ins, ?_, ?_⟩
  · apply List.mem_append_left
    apply List.mem_flatMap.mpr
    refine ⟨i, hi, ?_⟩
    unfold block
    simp only [List.mem_append, List.mem_map]
    exact Or.inl (Or.inl (Or.inr ⟨ins, hins, rfl⟩))
  · simp only [SInstr.regs, List.mem_map]
    exact ⟨n, hmem, rfl⟩

/-- consequence used by the semantics: replacing the temporaries never identifies two different
    registers of the section (so the replaced section computes what the symbolic one computes) -/
theorem temp_subst_injective (g : Graph) (l : List Nat) :
    ∀ x ∈ secRegs (secSym g l), ∀ y ∈ secRegs (secSym g l),
      substReg (tempRegs (secSym g l)) x = substReg (tempRegs (secSym g l)) y → x = y :=
  substReg_inj (secSym g l)

/-- **collapse_seq**: for a well formed graph and a duplicate-free, topologically ordered collapse
    list, one round of the composed section (as the composer leaves it, temporaries replaced),
    started from ANY register contents and reading `inp` on its input ports, emits exactly the
    dataflow evaluation `F` of the instances of the list: `F` solves their equations (`LocalSol`)
    and the emitted (port, value) sequence is `expectedOuts F`. -/
theorem collapse_seq (g : Graph) (l : List Nat) (inp : Nat → Nat) (hwf : g.wf = true)
    (hnd : l.Nodup) (hlt : ∀ i ∈ l, i < g.insts.length) (htopo : listTopo g l = true)
    (ρ : RegFile) :
    ∃ F, LocalSol g l inp F ∧
      (runSec g.w inp (secRes g l) ⟨ρ, []⟩).outs = expectedOuts g l F :=
  collapse_seq_res g l inp hwf hnd hlt htopo ρ

/-- **compose_correct** (safety): for every well formed DAG of well behaved fragments, every
    partition whose collapse lists are topologically ordered, every input vector: whenever the
    composed network behaves according to the channel assumption (`Consistent`: bonds carry one
    value per round to all their consumers; every CP runs its section sequentially from arbitrary
    register contents), every attached BM output carries `Frag.evalOut g inputs`. -/
theorem compose_correct (g : Graph) (pt : Part) (inputs : List Nat) (σ : End → Nat)
    (hwf : g.wf = true) (hok : Part.ok g pt = true) (hc : Consistent g pt inputs σ) :
    ∀ k, (outSrc g k).isSome → evalOut g inputs k = some (σ (.bmOut k)) := by
  intro k hk
  obtain ⟨s, hs⟩ := Option.isSome_iff_exists.mp hk
  have hpo := partOk_of g pt hok
  obtain ⟨V, hsol, hport⟩ := glue g pt inputs σ hwf hpo hc
  -- the link attached to BM output `k` is a bond; its source end carries the solution's value
  have key : σ (.bmOut k) = evalSrc g inputs s := by
    unfold outSrc at hs
    cases hf : g.links.find? (fun L => L.dst == Dst.ext k) with
    | none => rw [hf] at hs; cases hs
    | some L =>
      rw [hf] at hs
      simp only [Option.map_some, Option.some.injEq] at hs
      have hL : L ∈ g.links := List.mem_of_find?_eq_some hf
      have hd : L.dst = .ext k := by
        have := List.find?_some hf
        simpa using this
      cases s with
      | ext k0 =>
        have hb := mem_bonds g pt L (.bmIn k0) (.bmOut k) hL (by simp [Link.internal, hs])
          (by simp [hs, srcEnd]) (by simp [hd, dstEnd])
        have := hc.bond _ hb
        simp only at this
        rw [this, hc.inp k0]
        rfl
      | out i p =>
        obtain ⟨hi, hp⟩ := (wf_link g hwf L hL).2 i p hs
        obtain ⟨c, hcp⟩ := hpo.cover i hi
        have hext := hasExtCons_of_link_ext g (listOf pt c) L i p k hL hs hd
        have hop : outPort g (listOf pt c) i p = some (outIdx g (listOf pt c) i p) := by
          simp [outPort, hext]
        have hb := mem_bonds g pt L (.cpOut c (outIdx g (listOf pt c) i p)) (.bmOut k) hL
          (by simp [Link.internal, hs, hd]) (by simp [hs, srcEnd, hcp, hop]) (by simp [hd, dstEnd])
        have := hc.bond _ hb
        simp only at this
        rw [this, hport i p c _ hcp hp hop]
        simp only [evalSrc]
        exact solution_unique g inputs hwf V _ hsol (eval_solution g inputs hwf) i hi p hp
  unfold evalOut
  rw [hs, Option.map_some, key]

/-- **partition_irrelevant**: any two admissible partitions of the same graph show the same value on
    every attached BM output, for the same inputs. -/
theorem partition_irrelevant (g : Graph) (pt pt' : Part) (inputs : List Nat) (σ σ' : End → Nat)
    (hwf : g.wf = true) (hok : Part.ok g pt = true) (hok' : Part.ok g pt' = true)
    (hc : Consistent g pt inputs σ) (hc' : Consistent g pt' inputs σ') :
    ∀ k, (outSrc g k).isSome → σ (.bmOut k) = σ' (.bmOut k) := by
  intro k hk
  have h1 := compose_correct g pt inputs σ hwf hok hc k hk
  have h2 := compose_correct g pt' inputs σ' hwf hok' hc' k hk
  rw [h1] at h2
  exact Option.some.inj h2

/-- **link → IO renumbering never clashes**: inside one collapse list two different instance ports
    are never given the same CP output index, the same CP input index, or the same temporary (the
    `currNewOutput` / `currNewInput` / `currNewReg` counters) -/
theorem io_renumbering_injective (g : Graph) (l : List Nat) (i a i' a' k : Nat) (hi : i ∈ l) (hi' : i' ∈ l) :
    (a < g.nOut i → a' < g.nOut i' → outPort g l i a = some k → outPort g l i' a' = some k → i = i' ∧ a = a') ∧
    (a < g.nOut i → a' < g.nOut i' → tempIdx g l i a = some k → tempIdx g l i' a' = some k → i = i' ∧ a = a') ∧
    (a < g.nIn i → a' < g.nIn i' → inPort g l i a = some k → inPort g l i' a' = some k → i = i' ∧ a = a') :=
  ⟨fun h1 h2 => outPort_inj g l i a i' a' k hi h1 hi' h2,
   fun h1 h2 => tempIdx_inj g l i a i' a' k hi h1 hi' h2,
   fun h1 h2 => inPort_inj g l i a i' a' k hi h1 hi' h2⟩

/-- the dataflow evaluation is the unique solution of the graph's equations (what "direct
    evaluation" means does not depend on an evaluation order) -/
theorem eval_unique (g : Graph) (inputs : List Nat) (hwf : g.wf = true) (V : Nat → Nat → Nat)
    (hV : IsSolution g inputs V) :
    ∀ i, i < g.insts.length → ∀ p, p < g.nOut i → V i p = evalPort g inputs i p :=
  solution_unique g inputs hwf V _ hV (eval_solution g inputs hwf)

/-! ### liveness: full statement, and why it is not claimed -/

/-- full statement of the liveness half: the operational network (`Frag.Net.run`: blocking
    hand-shaken channels) delivers, for every admissible partition, all rounds on all outputs -/
def compose_live_full : Prop :=
  ∀ (g : Graph) (pt : Part) (inputs : List (List Nat)),
    g.wf = true → Part.ok g pt = true → ((compose g pt).run inputs).2 = "ok"

example : gEx.wf = true := by decide +kernel
example : Part.ok gEx ptOne = true := by decide +kernel
example : Part.ok gEx ptTwo = true := by decide +kernel
example : evalOut gEx [3] 0 = some 8 := by decide +kernel
example : evalOut gEx [3] 1 = some 5 := by decide +kernel
/-- the collapsed section: one temporary, allocated to r1 (r0 is used by the bodies) -/
example : (secRes gEx [0, 1, 2]).map SInstr.render =
    ["mov r0 i0", "inc r0", "mov r1 r0", "mov r0 r1", "add r0 r0", "mov o0 r0",
     "mov r0 r1", "inc r0", "mov o1 r0", "j _start"] := by decide +kernel
example : tempRegs (secSym gEx [0, 1, 2]) = [1] := by decide +kernel
example : bonds gEx ptTwo =
    [(.bmIn 0, .cpIn 0 0), (.cpOut 0 0, .cpIn 1 0), (.cpOut 1 0, .bmOut 0), (.cpOut 0 1, .bmOut 1)] := by
  decide +kernel

/-- on separate processors the network delivers eval(G) … -/
theorem crossing_separate_ok : (compose gX ptSep).run [[3, 4]] = ([[9], [8]], "ok") := by decide +kernel
example : evalOut gX [3, 4] 0 = some 9 ∧ evalOut gX [3, 4] 1 = some 8 := by decide +kernel

/-- … collapsed pairwise it dead-locks: cp0 blocks in `mov o0, r0` (A1's result, read by B2 only
    after B1), cp1 blocks in `mov r0, i0` (B1's input, written by A2 only after A1's write) -/
theorem crossing_collapsed_deadlocks : ((compose gX ptX).run [[3, 4]]).2 = "deadlock" := by decide +kernel

/-- **the liveness half fails for the composer as it is** (finding C06-sync-crossing-deadlock) -/
theorem compose_live_counterexample : ¬ compose_live_full := by
  intro h
  have := h gX ptX [[3, 4]] (by decide) (by decide)
  rw [crossing_collapsed_deadlocks] at this
  exact absurd this (by decide)

/-- a consistent behaviour exists (the hypothesis of `compose_correct` is satisfiable): `gEx` on
    two CPs, input 3 -/
theorem consistent_example : Consistent gEx ptTwo [3] σEx := by
  refine ⟨by decide, ?_, ?_⟩
  · -- whatever the registers hold, cp0 emits 4 and 5 from input 3, cp1 emits 8 from input 4
    intro c hc ρ kv hkv
    have : c = 0 ∨ c = 1 := by
      have : c < 2 := hc
      omega
    rcases this with rfl | rfl
    · have ho : (runSec gEx.w (fun k => σEx (.cpIn 0 k)) (secRes gEx (listOf ptTwo 0)) ⟨ρ, []⟩).outs
          = [(0, 4), (1, 5)] := rfl
      rw [ho] at hkv
      rcases List.mem_cons.mp hkv with rfl | hkv
      · rfl
      · cases List.mem_singleton.mp hkv; rfl
    · have ho : (runSec gEx.w (fun k => σEx (.cpIn 1 k)) (secRes gEx (listOf ptTwo 1)) ⟨ρ, []⟩).outs
          = [(0, 8)] := rfl
      rw [ho] at hkv
      cases List.mem_singleton.mp hkv; rfl
  · intro k
    match k with
    | 0 => rfl
    | k + 1 => rfl

/-- and `compose_correct` applies to it -/
example : evalOut gEx [3] 0 = some (σEx (.bmOut 0)) :=
  compose_correct gEx ptTwo [3] σEx (by decide) (by decide) consistent_example 0 (by decide)

end BMV.Props.C06
