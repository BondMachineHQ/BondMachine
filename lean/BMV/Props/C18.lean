/-
  C18 — every generated HDL file set is self-consistent and synthesizable Verilog.

  What is proved here, and what is not (DESIGN.md 6.C18, "Level"):

  * NOT proved: "for every machine the tool accepts, lint(files(M)) = []".  That quantifier ranges over
    the ~250 string-building generator functions of /repo, which are not modelled.  It is *checked* per
    run on an enumerated family of machines (harness/cmd/c18, lean/Oracle/C18.lean).
  * proved, about the lint itself (`BMV.Vlog.Design.lint`, the definition the per-run check evaluates):
      `wf_single_driver`   a lint-clean design has at most one `always` block writing any variable
      `wf_proc_assigns_regs`, `wf_cont_assigns_nets`   the assignment-kind class, from the definition
      `wf_decidable`
  * proved, **`wf_total` in full** (DESIGN.md 5.3): a design returned by `elaborate` never raises an
    elaboration-class error (unresolved name / any `internal:` condition) in `init`, `cycle`, `poke`, a whole
    `run`; evaluation-class errors (out-of-range select, memory as vector, non-settling logic) are
    excluded on purpose (`x / 0` and `x % 0` are not errors: they evaluate to 0, `Sem.lean`).  Pieces: `wf_expr_total` (every expression form), `wf_stmt_total`
    (assignments to any left-hand side, if / case / begin-end), `wf_total_of_resolved` (continuous
    assignments, settle, processes, commit), `elab_sigs_in_range` (`elaborate` — declarations, block locals,
    `for` unrolling, both passes, instance flattening to any depth — returns a `Resolved` design).
    Hypothesis: `Source.fromReader` (no `.sig` node in the parsed source; re-checked by the oracle).
  * proved, on a fragment, the stronger totality: `wf_total_partial_expr` (on `simple` expressions — no
    select, no memory, no `/ %` — width computation and evaluation return a value, no error of *any* class),
    with `resolve_closed_partial` (`resolveExpr` leaves no identifier) and `simple_closed`.
  * proved, about the checker `Source.check`: `lint_sound_undeclared` (no `[undeclared]` finding for a module
    ⇒ name resolution of its item-level expressions cannot fail with `[undeclared]`; bodies have no free name)
  * proved, about the shared-object header model `BMV.So` (tied to the emitted text on every run):
      `so_ports_agree`     for every kind and capability set: the top-level connection list has the
         length of the arch module's port list = the processor module's port list, position by position the
         connected wire has the width of the port, and both modules declare the port with the same direction
      `so_module_agree`    barrier / channel / sharedmem: the instance of the shared object's own module
         connects exactly the module's ports, in order, for every attachment list
      `queue_module_agree_iff`   queue / stack: that holds iff no processor with a receiver port precedes a
         processor with a sender port (the module lists all senders first) — otherwise the positional
         instance crosses the wires (found on the unchanged tree, see docs/C18.md)
      `lfsr8_module_disagree`    lfsr8 with ≥ 2 processors: the instance has more connections than the
         module has ports (defect of the unchanged tree)
-/
import BMV.Vlog.Check
import BMV.So
import BMV.Proofs.So
import BMV.Proofs.VlogTotal
import BMV.Proofs.VlogSafe
import BMV.Proofs.VlogElab
import BMV.Proofs.VlogUndecl
import BMV.Proofs.VlogLint
namespace BMV.Props.C18
open BMV.Vlog BMV.So

/-- **wf_decidable**: being lint-clean is decidable (it is a Boolean computed by `Design.lint`; the
    per-run check evaluates exactly this function). -/
def wf_decidable (d : Design) : Decidable (d.WF = true) := inferInstance

theorem wf_decidable_spec (d : Design) : d.WF = true ↔ d.lint = [] := by
  unfold Design.WF
  exact List.isEmpty_iff

/-- **wf_single_driver**: in a lint-clean design every variable (loop `integer`s exempt, as in the lint)
    is written by at most one `always` block. -/
theorem wf_single_driver (d : Design) (h : d.WF = true) (i b1 b2 : Nat)
    (hint : d.isIntSig i = false)
    (hb1 : b1 < d.alwaysBodies.length) (hb2 : b2 < d.alwaysBodies.length)
    (h1 : i ∈ d.blockTargets b1) (h2 : i ∈ d.blockTargets b2) : b1 = b2 := by
  have hnil := (wf_decidable_spec d).mp h
  rcases Nat.lt_trichotomy b1 b2 with hlt | heq | hgt
  · have := d.multi_in_lint i b1 b2 hint hlt hb2 h1 h2
    rw [hnil] at this
    exact absurd this List.not_mem_nil
  · exact heq
  · have := d.multi_in_lint i b2 b1 hint hgt hb1 h2 h1
    rw [hnil] at this
    exact absurd this List.not_mem_nil

/-- a procedural block of a lint-clean design assigns only variables (`reg` / `integer`), never a net
    or an input: the "wrong assignment kind" class, procedural half. -/
theorem wf_proc_assigns_regs (d : Design) (h : d.WF = true) (b i : Nat)
    (hb : b < d.alwaysBodies.length) (hi : i ∈ d.blockTargets b) : d.kindOf i = .reg := by
  have hnil := (wf_decidable_spec d).mp h
  by_cases hk : d.kindOf i = .reg
  · exact hk
  · exfalso
    have : s!"[assign-kind] net {d.sigName i} is assigned in a procedural block" ∈ d.lint := by
      apply d.procTarget_in_lint b i hb hi
      unfold Design.procTarget
      apply List.mem_append_left
      simp [hk]
    rw [hnil] at this
    exact absurd this List.not_mem_nil

/-- a continuous assignment (or instance port connection) of a lint-clean design drives a net, never a
    `reg` and never a top-level input: the "wrong assignment kind" class, continuous half. -/
theorem wf_cont_assigns_nets (d : Design) (h : d.WF = true) (t : Nat × Bool)
    (ht : t ∈ d.assigns.toList.flatMap fun a => lhsTargets a.1) : d.kindOf t.1 = .wire := by
  have hnil := (wf_decidable_spec d).mp h
  cases hk : d.kindOf t.1 with
  | wire => rfl
  | reg =>
    exfalso
    have hx : s!"[assign-kind] reg {d.sigName t.1} is assigned continuously" ∈ d.contTarget [] t := by
      unfold Design.contTarget; simp [hk]
    have := d.mem_lint_of_mem_cont _ (d.mem_contFindings t _ _ [] ht hx)
    rw [hnil] at this
    exact absurd this List.not_mem_nil
  | input =>
    exfalso
    have hx : s!"[assign-kind] input {d.sigName t.1} is driven inside the design" ∈ d.contTarget [] t := by
      unfold Design.contTarget; simp [hk]
    have := d.mem_lint_of_mem_cont _ (d.mem_contFindings t _ _ [] ht hx)
    rw [hnil] at this
    exact absurd this List.not_mem_nil

/-! non-vacuity of the lint theorems: a clean design with two always blocks, and the barrier's shape -/

def cleanDesign : Design :=
  { top := "t", sigs := #[{ name := "a", width := 8, kind := .reg }, { name := "b", width := 4, kind := .reg }],
    assigns := #[], combs := #[],
    procs := #[⟨[], .assign false (.sig 0) (.num (some 8) 1)⟩, ⟨[], .assign false (.sig 1) (.num (some 4) 2)⟩],
    inits := #[], roots := #[0, 1] }

/-- `done` set in one always block and cleared in another: the barrier shared object of /repo -/
def barrierShape : Design :=
  { cleanDesign with
    procs := #[⟨[], .assign false (.sig 0) (.num (some 8) 0)⟩, ⟨[], .ite (.sig 1) (.assign false (.sig 0) (.num (some 8) 1)) .null⟩] }

example : cleanDesign.WF = true := by decide
example : 0 ∈ cleanDesign.blockTargets 0 ∧ 1 ∈ cleanDesign.blockTargets 1 := by decide
example : barrierShape.WF = false := by decide
example : 0 ∈ barrierShape.blockTargets 0 ∧ 0 ∈ barrierShape.blockTargets 1 := by decide

/-- **elab_sigs_in_range**: a design returned by `elaborate` on a file set as the reader delivers it
    (`Source.fromReader`: no elaborated `.sig` node in the source — the S-expression reader `OfSexp` has no
    production for one; the oracle re-checks it on every file set) is `Resolved`: no identifier and no `for`
    is left, and every signal index in every stored assignment, port connection, `always` / `initial` body
    is below `d.sigs.size`.  Proved through both elaboration passes, block-local declarations, `for`
    unrolling, instance flattening to any depth (induction on the instantiation fuel). -/
theorem elab_sigs_in_range (src : Source) (hsrc : src.fromReader = true) (top : Option String) (d : Design)
    (h : elaborate src top = .ok d) : d.Resolved = true := elaborate_resolved src hsrc top d h

/-- **wf_expr_total**: on *every* identifier-free expression with in-range signal indices — all operators
    including `/ %`, bit / part / indexed selects, memory words, concatenation, replication — width
    computation, evaluation in any context width, and the right-hand side of an assignment never raise an
    elaboration-class error (they may raise evaluation-class ones: the guards the evaluator itself checks). -/
theorem wf_expr_total (sigs : Array Sig) (st : State) (hst : sigs.size ≤ st.size) (e : Expr)
    (he : wfE sigs.size e = true) (msg : String) :
    (selfW sigs e = .error msg → ElabClassError msg = false) ∧
    (∀ W, evalC sigs st W e = .error msg → ElabClassError msg = false) ∧
    (∀ lw, evalAssign sigs st lw e = .error msg → ElabClassError msg = false) :=
  ⟨(selfW_safe sigs e he).1 msg, fun W => (evalC_safe sigs st hst e he W).1 msg,
   fun lw => (evalAssign_safe sigs st hst lw e he).1 msg⟩

/-- **wf_stmt_total**: executing a well-formed statement (blocking / non-blocking assignments to any
    left-hand side, `if`, `case`, `begin/end`; `for` is gone after unrolling) in a block state whose storage
    and pending writes are in range never raises an elaboration-class error and keeps that invariant. -/
theorem wf_stmt_total (sigs : Array Sig) (s : Stmt) (x : XSt) (hs : wfS sigs.size s = true)
    (hx : XOk sigs.size x) :
    (∀ msg, exec sigs x s = .error msg → ElabClassError msg = false) ∧
    (∀ x', exec sigs x s = .ok x' → XOk sigs.size x') := exec_safe sigs s x hs hx

/-- **wf_total_of_resolved**: `wf_total` with "`d` comes from `elaborate`" replaced by what `elaborate` has
    to establish, `d.Resolved` (decidable; the oracle evaluates it on every design it lints).  Covers `init`,
    `cycle` (inputs → settle → every triggered process → commit → settle), `poke`, and the storage invariant
    that lets the statement be iterated over a whole `run`. -/
theorem wf_total_of_resolved (d : Design) (hd : d.Resolved = true) :
    (∀ msg, d.init = .error msg → ElabClassError msg = false) ∧
    (∀ st0, d.init = .ok st0 → d.sigs.size ≤ st0.size) ∧
    (∀ (clk : Nat) (st : State) (inputs : List (Nat × Nat)), d.sigs.size ≤ st.size →
      (∀ msg, d.cycle clk st inputs = .error msg →
        ElabClassError msg = false ∨ d.setInputs st inputs = .error msg) ∧
      (∀ st', d.cycle clk st inputs = .ok st' → d.sigs.size ≤ st'.size)) ∧
    (∀ (st : State) (inputs : List (Nat × Nat)), d.sigs.size ≤ st.size →
      (∀ msg, d.poke st inputs = .error msg →
        ElabClassError msg = false ∨ d.setInputs st inputs = .error msg) ∧
      (∀ st', d.poke st inputs = .ok st' → d.sigs.size ≤ st'.size)) :=
  ⟨(init_safe d hd).1, (init_safe d hd).2,
   fun clk st inputs hst => cycle_safe d hd clk st inputs hst,
   fun st inputs hst => poke_safe d hd st inputs hst⟩

/-- **wf_total** (DESIGN.md 5.3).  A design produced by `elaborate` from a
    file set as the reader delivers it never hits an *elaboration-class* error (`ElabClassError`: an
    unresolved name, or any `internal:` condition — signal index out of range, no storage for a signal, loop
    not unrolled) when it is initialised, clocked or poked, in any state that has storage for the design's
    signals and for any inputs; the only other way `cycle` / `poke` can fail is `setInputs` rejecting the
    caller's input list (its messages quote signal names, so they are returned verbatim in the second
    disjunct).  The lint hypothesis `d.WF` of the DESIGN.md statement is not needed for this and is kept
    only in the corollary `wf_total_wf`.
    Excluded on purpose — *evaluation-class* errors remain possible and are reported by the evaluator:
    out-of-range bit / part / memory select, a memory used as a vector, non-constant where a constant is
    required, non-settling combinational logic.  (`x / 0` and `x % 0` evaluate to 0 and are no error.) -/
theorem wf_total (src : Source) (hsrc : src.fromReader = true) (top : Option String) (d : Design)
    (hel : elaborate src top = .ok d) :
    (∀ msg, d.init = .error msg → ElabClassError msg = false) ∧
    (∀ st0, d.init = .ok st0 → d.sigs.size ≤ st0.size) ∧
    (∀ (clk : Nat) (st : State) (inputs : List (Nat × Nat)), d.sigs.size ≤ st.size →
      (∀ msg, d.cycle clk st inputs = .error msg →
        ElabClassError msg = false ∨ d.setInputs st inputs = .error msg) ∧
      (∀ st', d.cycle clk st inputs = .ok st' → d.sigs.size ≤ st'.size)) ∧
    (∀ (st : State) (inputs : List (Nat × Nat)), d.sigs.size ≤ st.size →
      (∀ msg, d.poke st inputs = .error msg →
        ElabClassError msg = false ∨ d.setInputs st inputs = .error msg) ∧
      (∀ st', d.poke st inputs = .ok st' → d.sigs.size ≤ st'.size)) :=
  wf_total_of_resolved d (elab_sigs_in_range src hsrc top d hel)

/-- the statement in the shape of DESIGN.md 5.3 (`d.WF → ∀ s i, cycle d s i ≠ elaboration error`) -/
theorem wf_total_wf (src : Source) (hsrc : src.fromReader = true) (top : Option String) (d : Design)
    (hel : elaborate src top = .ok d) (_hwf : d.WF = true) (clk : Nat) (st : State)
    (inputs : List (Nat × Nat)) (hst : d.sigs.size ≤ st.size) (msg : String)
    (herr : d.cycle clk st inputs = .error msg) :
    ElabClassError msg = false ∨ d.setInputs st inputs = .error msg :=
  ((wf_total src hsrc top d hel).2.2.1 clk st inputs hst).1 msg herr

/-- a whole run from the initial state: the storage invariant makes `wf_total` iterable -/
theorem wf_total_run (src : Source) (hsrc : src.fromReader = true) (top : Option String) (d : Design)
    (hel : elaborate src top = .ok d) (clk : Nat) :
    ∀ (ins : List (List (Nat × Nat))) (st : State), d.sigs.size ≤ st.size →
      ∀ st', d.run clk st ins = .ok st' → d.sigs.size ≤ st'.size
  | [], st, hst, st', h => by
    unfold Design.run at h
    simp only [pure, Except.pure, Except.ok.injEq] at h; subst h; exact hst
  | i :: is, st, hst, st', h => by
    unfold Design.run at h
    obtain ⟨st1, h1, h2⟩ := bind_ok h
    have := ((wf_total src hsrc top d hel).2.2.1 clk st i hst).2 st1 h1
    exact wf_total_run src hsrc top d hel clk is st1 this st' h2

/-! non-vacuity of `wf_total`: a source the reader could deliver, accepted by `elaborate`
   (`elabModule` is defined by well-founded recursion, which the kernel does not unfold: its success on this
   source is evaluated at build time by `#guard`; the oracle exercises it on every emitted file set), and a
   `Resolved` design with a state of the right shape -/

def tinySrc : Source := ⟨[⟨"t", ["clk", "q"], [
  .decl ⟨.input, .none, none, [⟨"clk", none, none⟩]⟩,
  .decl ⟨.output, .reg, some ⟨.num none 3, .num none 0⟩, [⟨"q", none, none⟩]⟩,
  .always false [(.pos, .id "clk")] (.assign false (.id "q") (.bin .add (.id "q") (.num (some 4) 1)))]⟩]⟩

example : tinySrc.fromReader = true := by decide
#guard (match elaborate tinySrc none with | .ok d => d.Resolved && d.WF && d.sigs.size == 2 | .error _ => false)
#guard (match (do let d ← elaborate tinySrc none; let s ← d.init; d.cycle 0 s []) with | .ok _ => true | .error _ => false)
example : cleanDesign.Resolved = true := by decide
example : cleanDesign.sigs.size ≤ (#[#[0], #[0]] : State).size := by decide
example : barrierShape.Resolved = true ∧ barrierShape.WF = false := by decide

/-- the message classification is not vacuous: the evaluator's two elaboration-class texts are in the
    class; a text with another beginning is not (the last one is no message of the evaluator) -/
example (n : String) : ElabClassError s!"undeclared identifier {n}" = true := by
  simp [ElabClassError, String.toList_append, ToString.toString, List.isPrefixOf]
example (i : Nat) : ElabClassError s!"internal: signal index {i} out of range" = true := by
  simp [ElabClassError, String.toList_append, ToString.toString, List.isPrefixOf]
example : ElabClassError "division by zero" = false := not_elabClass (headOk_lit (by decide))

/-! ## totality on the `simple` fragment

`wf_total` excludes one class of errors everywhere; on `simple` expressions evaluation cannot fail at all. -/

/-- **resolve_closed_partial**: whatever `resolveExpr` accepts contains no source-level identifier any
    more, in any scope and for any input expression (`elab_sigs_in_range` adds the index bounds, for
    expressions as the reader delivers them). -/
theorem resolve_closed_partial (sc : Scope) (e e' : Expr) (h : resolveExpr sc e = .ok e') :
    closed e' = true := resolveExpr_closed sc e e' h

theorem resolve_closed_list_partial (sc : Scope) (es es' : List Expr) (h : resolveExprs sc es = .ok es') :
    closedL es' = true := resolveExprs_closed sc es es' h

/-- **wf_total_partial_expr**: on the `simple` fragment — identifier-free expressions over existing
    non-memory signals, without selects and without `/` `%` — width computation, evaluation in any context
    width and the right-hand side of an assignment return a value: no error of *any* class, in every state
    that has storage for the design's signals.  (Selects and memories are outside the fragment because
    their range errors are real.) -/
theorem wf_total_partial_expr (sigs : Array Sig) (st : State) (hst : StateOk sigs st) (e : Expr)
    (he : simple sigs e = true) :
    (∃ w, selfW sigs e = .ok w) ∧ (∀ W, ∃ v, evalC sigs st W e = .ok v) ∧
    (∀ lw, ∃ v, evalAssign sigs st lw e = .ok v) := by
  refine ⟨selfW_ok sigs e he, evalC_ok sigs st hst e he, ?_⟩
  intro lw
  obtain ⟨w, hw⟩ := selfW_ok sigs e he
  obtain ⟨v, hv⟩ := evalC_ok sigs st hst e he (max lw w)
  exact ⟨v % pow2 lw, by simp [evalAssign, hw, hv, bind, Except.bind, pure, Except.pure]⟩

/-- a `simple` expression is closed: the totality fragment lies inside what `resolve_closed_partial` speaks of -/
theorem simple_closed (sigs : Array Sig) : ∀ (e : Expr), simple sigs e = true → closed e = true :=
  BMV.Vlog.simple_closed sigs

/-! non-vacuity: a concrete design fragment meeting the hypotheses -/

def demoSigs : Array Sig := #[{ name := "a", width := 8, kind := .reg }, { name := "b", width := 4, kind := .wire }]
def demoState : State := #[#[200], #[9]]
/-- `{a + 8'd100, ~b}` under a conditional: an expression of the `simple` fragment -/
def demoExpr : Expr :=
  .cond (.bin .lt (.sig 1) (.num (some 4) 10)) (.cat [.bin .add (.sig 0) (.num (some 8) 100), .un .bnot (.sig 1)]) (.num (some 12) 0)

example : simple demoSigs demoExpr = true := by decide
example : StateOk demoSigs demoState := by
  intro i s h
  match i, h with
  | 0, _ => exact ⟨#[200], 200, rfl, rfl⟩
  | 1, _ => exact ⟨#[9], 9, rfl, rfl⟩
  | n + 2, h => simp [demoSigs] at h
example : ∃ e', resolveExpr ({} : Scope) (.bin .add (.num none 1) (.cat [.num (some 4) 2])) = .ok e' := ⟨_, rfl⟩

/-- **lint_sound_undeclared** — the property's clause "every identifier that is read, written or used as a
    clock is declared in scope", proved of the checker: if `Source.check` reports no `[undeclared]` for module
    `m` (`m.undeclared = []`), then in every scope that binds at least the names the module declares
    (`Module.scope`: nets, variables, parameters) name resolution of every expression the module holds at item
    level — both sides of continuous assignments, clock / event expressions, port connections and parameter
    overrides of instances — never fails with `elaborate`'s `[undeclared]` error; and every `always` / `initial`
    body has no free identifier w.r.t. that scope extended by the local declarations of the enclosing named
    blocks (`stmtFree … = []`). -/
theorem lint_sound_undeclared (m : Module) (h : m.undeclared = []) (sc : Scope)
    (hcover : ∀ n, n ∈ m.scope → sc.contains n = true) :
    (∀ l r, Item.assign l r ∈ m.items → NoUndecl (resolveExpr sc l) ∧ NoUndecl (resolveExpr sc r)) ∧
    (∀ star evs b, Item.always star evs b ∈ m.items →
      (∀ ev, ev ∈ evs → NoUndecl (resolveExpr sc ev.2)) ∧ stmtFree m.scope b = []) ∧
    (∀ b, Item.initial b ∈ m.items → stmtFree m.scope b = []) ∧
    (∀ mn n ps cs, Item.inst mn n ps cs ∈ m.items →
      ∀ e, e ∈ connExprs ps ++ connExprs cs → NoUndecl (resolveExpr sc e)) := by
  refine ⟨?_, ?_, ?_, ?_⟩
  · intro l r hit
    have := free_nil (undeclared_item h hit)
    exact ⟨resolveExpr_noUndecl sc l (fun n hn => hcover n (this n (by simp [hn]))),
           resolveExpr_noUndecl sc r (fun n hn => hcover n (this n (by simp [hn])))⟩
  · intro star evs b hit
    have := undeclared_item h hit
    simp only [List.append_eq_nil_iff] at this
    refine ⟨fun ev hev => ?_, this.2⟩
    have hf := free_nil this.1
    exact resolveExpr_noUndecl sc ev.2 (fun n hn => hcover n (hf n (List.mem_flatMap.mpr ⟨ev, hev, hn⟩)))
  · intro b hit
    exact undeclared_item h hit
  · intro mn n ps cs hit e he
    have hf := free_nil (undeclared_item h hit)
    refine resolveExpr_noUndecl sc e (fun x hx => hcover x (hf x ?_))
    rcases List.mem_append.mp he with he | he
    · exact List.mem_append_left _ (List.mem_flatMap.mpr ⟨e, he, hx⟩)
    · exact List.mem_append_right _ (List.mem_flatMap.mpr ⟨e, he, hx⟩)


/-- non-vacuity: `tinySrc`'s module has no undeclared identifier, and one that uses `clock` for `clk` has -/
example : (tinySrc.modules.map Module.undeclared) = [[]] := by decide
example : Module.undeclared ⟨"br", ["clk"], [.decl ⟨.input, .none, none, [⟨"clk", none, none⟩]⟩,
    .decl ⟨.none, .reg, none, [⟨"done", none, none⟩]⟩,
    .always false [(.pos, .id "clock")] (.assign false (.id "done") (.num (some 1) 0))]⟩ = ["clock"] := by decide

/-- **so_ports_agree**: for every modelled kind and capability set, the connection list that
    `Write_verilog_main` passes to `aN_inst` (`GetPerProcPortsHeader ++ GetCPSharedPortsHeader`, with the
    wires of `…Wires`) has the length of the port list of the arch module and of the processor module
    (`GetArchHeader`, the same function in both), position by position the wire has the width of the port,
    the port is declared in both modules (`GetArchParams`, `GetCPParams`) with the same direction and
    width, and the wires declared are exactly the wires connected. -/
theorem so_ports_agree (k : Kind) (c : Caps) :
    (topConns k c).length = (archHeader k c).length ∧
    (archHeader k c).length = ((cpParams k c).map (·.suffix)).length ∧
    slotsAgree k c (topConns k c) (archHeader k c) = true ∧
    (topConns k c).map (·.1) = perProcHeader k c ++ cpSharedHeader k := by
  cases k <;> rcases c with ⟨_ | _, _ | _⟩ <;> decide

/-- the two lists still have the same length once the name prefixes (`br0…`, `p1br0…`, `q0…`) are applied -/
theorem so_ports_agree_named (k : Kind) (c : Caps) (apfx tpfx spfx : String) :
    ((perProcHeader k c).map (tpfx ++ ·) ++ (cpSharedHeader k).map (spfx ++ ·)).length
      = ((archHeader k c).map (apfx ++ ·)).length := by
  have h := (so_ports_agree k c).1
  have h2 := (so_ports_agree k c).2.2.2
  have h3 : (topConns k c).length = (perProcHeader k c ++ cpSharedHeader k).length := by
    rw [← h2, List.length_map]
  simp only [List.length_append, List.length_map] at h3 ⊢
  omega

/-- **so_module_agree** (barrier, channel, sharedmem): the instance of the shared object's own module
    connects exactly the module's ports in the module's order, for every attachment list. -/
theorem so_module_agree (k : Kind) (hk : k = .barrier ∨ k = .channel ∨ k = .sharedmem) (atts : List Att) :
    instSlots k atts = moduleSlots k atts := by
  rcases hk with rfl | rfl | rfl <;> simp [instSlots, moduleSlots, cpSharedHeader]

/-- lfsr8 attached to two or more processors: more connections than ports (defect of the unchanged tree) -/
theorem lfsr8_module_disagree (atts : List Att) (h : 2 ≤ atts.length) :
    (moduleSlots .lfsr8 atts).length < (instSlots .lfsr8 atts).length := by
  match atts, h with
  | a :: b :: rest, _ =>
    simp [instSlots, moduleSlots, cpSharedHeader, perProcHeader]

/-- **queue_module_agree_iff**: the bmstack template lists all senders, then all receivers; the instance lists
    per processor.  They coincide exactly when no receiver-capable processor precedes a sender-capable one. -/
theorem queue_module_agree_iff (k : Kind) (hk : k = .queue ∨ k = .stack) (atts : List Att) (hne : atts ≠ []) :
    instSlots k atts = moduleSlots k atts ↔ sendersFirst atts = true := by
  obtain ⟨hi, hm⟩ := queue_slots k hk atts hne
  rw [hi, hm]
  exact ⟨fun h => split_flatMap_conv atts (List.append_cancel_right h), fun h => by rw [split_flatMap atts h]⟩

/-- queue / stack: agreement under the senders-first condition -/
theorem queue_module_agree (k : Kind) (hk : k = .queue ∨ k = .stack) (atts : List Att)
    (hne : atts ≠ []) (h : sendersFirst atts = true) : instSlots k atts = moduleSlots k atts :=
  (queue_module_agree_iff k hk atts hne).mpr h

/-- the order does matter: receiver-capable processor 0 before sender-capable processor 1 -/
example : instSlots .queue [⟨0, 0, ⟨true, true⟩⟩, ⟨1, 1, ⟨true, false⟩⟩]
    ≠ moduleSlots .queue [⟨0, 0, ⟨true, true⟩⟩, ⟨1, 1, ⟨true, false⟩⟩] := by decide


/-- non-vacuity: the agreeing case is inhabited too (sender-only processor first) -/
example : instSlots .stack [⟨0, 0, ⟨true, false⟩⟩, ⟨1, 1, ⟨true, true⟩⟩]
    = moduleSlots .stack [⟨0, 0, ⟨true, false⟩⟩, ⟨1, 1, ⟨true, true⟩⟩] := by decide

example : slotsAgree .channel ⟨false, false⟩ (topConns .channel ⟨false, false⟩) (archHeader .channel ⟨false, false⟩) = true := by decide

end BMV.Props.C18
