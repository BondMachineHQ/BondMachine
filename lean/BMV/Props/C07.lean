/-
  C07 — Every build step is a function of its inputs.   (claimed PARTIAL, see below)

  Statement (properties.jsonl): running basm, bondgo, neuralbond, bmqsim→basm or
  `bondmachine -create-verilog` twice on the same inputs yields byte-identical artefacts, in
  every process and on every run; no output depends on hash-map iteration order, goroutine
  timing or the clock.
      ∀ tool T, ∀ inputs x, ∀ runs r₁ r₂ (fresh processes, varied GOMAXPROCS) : T(x)@r₁ = T(x)@r₂

  What a theorem can say.  The Go runtime's per-process map randomisation cannot be quantified
  over; it is made an explicit parameter: every modelled map walk takes the iteration order `π`
  (a `List.Perm` of the map's entries) as an argument and the theorem is
  `∀ π₁ π₂, π₁ ~ entries → π₂ ~ entries → f π₁ = f π₂`.  Models: BMV/Sched.lean (each cites the
  Go file:function it stands for); lemmas: BMV/Proofs/Sched.lean.

  Tie to the current source (checked by the kernel on every run): `BMV.Gen.MapRanges` is
  regenerated from /repo by a go/ast + go/types extractor (every `range` over a map, every use of
  the clock / math/rand / temp paths, every `go` statement in the packages of the five tools) and
  `sites_classified_partial` demands that every site is classified, with the same syntactic
  class, in the hand-written table `BMV.Sched.Expect.rows`.

  PARTIAL because (1) whether a given Go loop satisfies the hypotheses of the theorem its row
  cites (frame condition, distinct keys, state-independent failure) is read from the code by a
  human, not proved about Go text; (2) rows with verdict `.unproved` / `.finding` are sites with
  no theorem: for them the property rests on repeated fresh-process runs (tools/props/c07.py).
  The full statement is `C07_full`; it is false on today's table and is kept visible.
-/
import BMV.Proofs.Sched
import BMV.SchedExpect
import BMV.Gen.MapRanges
namespace BMV.Props.C07
open BMV.Sched BMV.Sched.Expect List

/-! ## first match (ImportString, SetActive, main-function lookup) -/

/-- "first entry that satisfies p" does not depend on the iteration order when all entries that
    satisfy p agree on the result (in particular when at most one does) -/
theorem first_match_det {α β : Type} (p : α → Bool) (g : α → β) (tbl : List α)
    (uniq : ∀ a ∈ tbl, ∀ b ∈ tbl, p a = true → p b = true → g a = g b)
    {π₁ π₂ : List α} (h₁ : π₁ ~ tbl) (h₂ : π₂ ~ tbl) :
    firstMatch p g π₁ = firstMatch p g π₂ :=
  first_match_unique (h₁.trans h₂.symm) (fun a ha b hb => uniq a (h₁.subset ha) b (h₁.subset hb))

/-- pkg/bmnumbers/import.go:ImportString is independent of the order in which Go walks
    `AllMatchers` **iff** any two matchers that accept the input import it to the same value -/
theorem importString_det {K I R : Type} [DecidableEq K] (acc : K → I → Bool) (imp : K → I → R)
    (tbl : List K) (x : I) :
    (∀ π₁ π₂, π₁ ~ tbl → π₂ ~ tbl → importString acc imp π₁ x = importString acc imp π₂ x) ↔
    (∀ k₁ ∈ tbl, ∀ k₂ ∈ tbl, acc k₁ x = true → acc k₂ x = true → imp k₁ x = imp k₂ x) := by
  constructor
  · intro det k₁ h₁ k₂ h₂ a₁ a₂
    have e := det _ _ (perm_cons_erase h₁).symm (perm_cons_erase h₂).symm
    rw [importString_cons_of_acc imp _ a₁, importString_cons_of_acc imp _ a₂] at e
    exact Option.some.inj e
  · intro agree π₁ π₂ h₁ h₂
    exact first_match_det _ _ tbl agree h₁ h₂

/-- with C08's theorem as hypothesis (the matchers are pairwise disjoint: no string is accepted
    by two different regexes of the table) ImportString is a function of its input -/
theorem importString_det_of_disjoint {K I R : Type} [DecidableEq K] (acc : K → I → Bool) (imp : K → I → R)
    (tbl : List K) (x : I)
    (disjoint : ∀ k₁ ∈ tbl, ∀ k₂ ∈ tbl, k₁ ≠ k₂ → ¬(acc k₁ x = true ∧ acc k₂ x = true))
    {π₁ π₂ : List K} (h₁ : π₁ ~ tbl) (h₂ : π₂ ~ tbl) :
    importString acc imp π₁ x = importString acc imp π₂ x := by
  apply (importString_det acc imp tbl x).mpr _ π₁ π₂ h₁ h₂
  intro k₁ m₁ k₂ m₂ a₁ a₂
  by_cases e : k₁ = k₂
  · rw [e]
  · exact absurd ⟨a₁, a₂⟩ (disjoint k₁ m₁ k₂ m₂ e)

/-- converse witness: two matchers of the table that accept the same input and import it
    differently make the result depend on the iteration order (the shape of the `0u100` case: with
    an unescaped dot `^0u([0-9]+).0+$` also accepts it and gives 1 where `^0u([0-9]+)$` gives 100;
    /repo escapes the dot since 2553f67, and C08 proves the table disjoint) -/
theorem importString_order_sensitive {K I R : Type} [DecidableEq K] (acc : K → I → Bool) (imp : K → I → R)
    (tbl : List K) (x : I) (k₁ k₂ : K) (m₁ : k₁ ∈ tbl) (m₂ : k₂ ∈ tbl)
    (a₁ : acc k₁ x = true) (a₂ : acc k₂ x = true) (ne : imp k₁ x ≠ imp k₂ x) :
    ∃ π₁ π₂, π₁ ~ tbl ∧ π₂ ~ tbl ∧ importString acc imp π₁ x ≠ importString acc imp π₂ x := by
  have m₂' : k₂ ∈ tbl.erase k₁ := (mem_erase_of_ne fun e => ne (by rw [e])).mpr m₂
  have hp : k₁ :: k₂ :: (tbl.erase k₁).erase k₂ ~ tbl :=
    ((perm_cons_erase m₂').cons k₁).symm.trans (perm_cons_erase m₁).symm
  obtain ⟨hsw, hd⟩ := first_match_order_sensitive (p := fun k => acc k x) (g := fun k => imp k x)
    ((tbl.erase k₁).erase k₂) a₁ a₂ ne
  exact ⟨_, _, hp, hsw.symm.trans hp, hd⟩

/-- non-vacuity: a two-entry table on which the hypotheses of both directions are met -/
example : ∃ π₁ π₂ : List Nat, π₁ ~ [0, 1] ∧ π₂ ~ [0, 1] ∧
    importString (fun k (x : String) => decide (k ≤ 1) && x == "0u100") (fun k _ => if k = 0 then 100 else 1) π₁ "0u100"
    ≠ importString (fun k (x : String) => decide (k ≤ 1) && x == "0u100") (fun k _ => if k = 0 then 100 else 1) π₂ "0u100" :=
  importString_order_sensitive _ _ [0, 1] "0u100" 0 1 (by simp) (by simp) (by decide) (by decide) (by decide)

example : importString (fun k (x : String) => decide (k = 0) && x == "0u100") (fun k _ => if k = 0 then 100 else 1) [1, 0] "0u100"
    = importString (fun k (x : String) => decide (k = 0) && x == "0u100") (fun k _ => if k = 0 then 100 else 1) [0, 1] "0u100" :=
  importString_det_of_disjoint _ _ [0, 1] "0u100" (by intro k₁ _ k₂ _ ne h; simp at h; omega)
    (Perm.swap 0 1 []) (Perm.refl _)

/-! ## framed walks (passes over sections / fragments / macros) -/

/-- pkg/basm/symboltagger.go:symbolTagger — the symbol table it builds (or the duplicate-symbol
    error) does not depend on the order in which Go walks `bi.sections` / `bi.fragments`: each
    iteration writes only keys prefixed by the ranged key, and its error test is local to the
    ranged container.  Hypothesis: the containers are the entries of Go maps (distinct names
    per kind). -/
theorem symbolTagger_det (secs : List Sect) (hn : (secs.map (fun s => (s.kind, s.name))).Nodup)
    {π₁ π₂ : List Sect} (h₁ : π₁ ~ secs) (h₂ : π₂ ~ secs) (t : SymTab) :
    symbolTagger π₁ t = symbolTagger π₂ t :=
  framed_walkE_det _ (fun (s : Sect) (t : SymTab) => s.tag t) Sect.hasDup Sect.tag_frame secs
    (keys_disjoint (fun c : SymKey => (c.1, c.2.1)) _ hn) h₁ h₂ t

/-- and the error is reported exactly when some container has a duplicate label, whatever the order -/
theorem symbolTagger_error_iff (π : List Sect) (t : SymTab) :
    symbolTagger π t = none ↔ ∃ s ∈ π, s.hasDup = true :=
  walkE_eq_none_iff π t

/-- passes that range over `bi.sections` / `bi.fragments` / `bi.macros`, rewrite only the ranged
    element from its own content and may fail on it: the resulting table (or the failure) does
    not depend on the iteration order -/
theorem sections_walk_det {B : Type} (fails : String → B → Bool) (rewrite : String → B → B)
    (names : List String) (hn : names.Nodup) {π₁ π₂ : List String} (h₁ : π₁ ~ names) (h₂ : π₂ ~ names)
    (secs : Store String B) :
    sectionsWalk fails rewrite π₁ secs = sectionsWalk fails rewrite π₂ secs :=
  framed_walkE_det _ (fun n st => st.set n (rewrite n (st n))) _ (fun n => frame_set_own n (rewrite n))
    names (keys_disjoint id id (by rwa [map_id])) h₁ h₂ secs

/-- copying the entries of a map (distinct keys) into another map: `for k, v := range m { d[k] = v }` -/
theorem keyed_copy_det {K V : Type} [DecidableEq K] (entries : List (K × V)) (hk : (entries.map (·.1)).Nodup)
    {π₁ π₂ : List (K × V)} (h₁ : π₁ ~ entries) (h₂ : π₂ ~ entries) (d : Store K V) :
    walk (fun d e => d.set e.1 e.2) d π₁ = walk (fun d e => d.set e.1 e.2) d π₂ :=
  framed_walk_det _ (fun e d => d.set e.1 e.2) (fun e => frame_set_own e.1 (fun _ => e.2)) entries
    (keys_disjoint id (·.1) hk) h₁ h₂ d

/-- inserting the walked entries into a set (`usedIDs[id] = true`, `Requirement{Op: OpAdd}`) -/
theorem set_insert_det {π₁ π₂ : List String} (h : π₁ ~ π₂) (s : Store String Bool) :
    walk reqInsert s π₁ = walk reqInsert s π₂ :=
  foldl_perm_of_comm (fun z x y => Store.set_idem_comm z x y true) h s

/-- asking whether some / every entry has a property -/
theorem membership_det {α : Type} (p : α → Bool) {π₁ π₂ : List α} (h : π₁ ~ π₂) :
    π₁.any p = π₂.any p ∧ π₁.all p = π₂.all p :=
  ⟨h.any_eq, h.all_eq⟩

/-! ## sorted-before-use -/

/-- the generic fact behind every `.sortedAfter` row -/
theorem sorted_after_det {α : Type} {le : α → α → Bool} (ho : TotalOrder le) {π₁ π₂ : List α}
    (h : π₁ ~ π₂) : isort le π₁ = isort le π₂ :=
  sort_perm ho h

/-- pkg/basm/creatorbm.go:CreateConnectingProcessor — the opcode numbering (position in the
    sorted list) does not depend on the order in which the requirement set was walked -/
theorem opcodes_sorted_det {le : String → String → Bool} (ho : TotalOrder le) {π₁ π₂ : List String}
    (h : π₁ ~ π₂) : opcodeNumbering le π₁ = opcodeNumbering le π₂ :=
  sorted_after_det ho h

/-- a consumer that sorts must sort by a total order -/
def Consumer.WF {ρ : Type} : Consumer ρ → Prop
  | .sorted le _ => TotalOrder le
  | _ => True

/-- pkg/bmreqs getReqs: every consumer of the unordered comma list that sorts it, tests
    membership, counts, or re-inserts it into another set sees the same thing on every run -/
theorem getReqs_consumers_det {ρ : Type} (c : Consumer ρ) (hc : Consumer.WF c) {π₁ π₂ : List String}
    (h : π₁ ~ π₂) : c.eval (getReqs π₁) = c.eval (getReqs π₂) := by
  cases c with
  | sorted le k => exact congrArg k (sorted_after_det hc h)
  | member x k => exact congrArg k h.contains_eq
  | count k => exact congrArg k h.length_eq
  | reinsert k => exact congrArg k (set_insert_det h _)

private theorem natLe_total : TotalOrder (fun a b : Nat => decide (a ≤ b)) :=
  ⟨fun a b => by simp only [decide_eq_true_eq]; omega,
   fun a b c => by simp only [decide_eq_true_eq]; omega,
   fun a b => by simp only [decide_eq_true_eq]; omega⟩

/-- non-vacuity: a total order exists and the sort really reorders -/
example : isort (fun a b : Nat => decide (a ≤ b)) [3, 1, 2] = isort (fun a b : Nat => decide (a ≤ b)) [2, 3, 1] :=
  sorted_after_det natLe_total (by decide)
example : isort (fun a b : Nat => decide (a ≤ b)) [3, 1, 2] = [1, 2, 3] := by decide +kernel

/-! ## two loops in both forms: emitting in iteration order, and sorting first

  `altKeys` / `cpdefLines` model the loop that uses the map order as it comes, `altKeysSorted` /
  `cpdefLinesSorted` the loop that sorts the keys first.  /repo has the sorted form of both
  (c01dfa4, 6462971); the order-dependent form is kept as the witness of what the sort is for. -/

/-- pkg/basm/matcherresolver.go: the list that numbers a section's alternatives IS the iteration
    order — any two different orders give different numberings -/
theorem altKeys_order_sensitive {π₁ π₂ : List String} (h : π₁ ≠ π₂) : altKeys π₁ ≠ altKeys π₂ := by
  rw [altKeys_eq, altKeys_eq]; exact h

/-- … and with the keys sorted first (`slices.Sort(secAltsKeys)`, as in /repo) the numbering is a
    function of the key set -/
theorem altKeys_sorted_det {le : String → String → Bool} (ho : TotalOrder le) {π₁ π₂ : List String}
    (h : π₁ ~ π₂) : altKeysSorted le π₁ = altKeysSorted le π₂ :=
  congrArg altKeys (sorted_after_det ho h)

/-- pkg/neuralbond/neuralbond.go:WriteBasm — the emitted cpdef lines follow the iteration order:
    a concrete pair of orders of the same two nodes gives two different files -/
theorem cpdef_order_sensitive :
    ["node_0_0", "node_0_1"] ~ ["node_0_1", "node_0_0"] ∧
    cpdefLines ["node_0_0", "node_0_1"] ≠ cpdefLines ["node_0_1", "node_0_0"] := by
  refine ⟨Perm.swap _ _ _, ?_⟩
  rw [cpdefLines_eq, cpdefLines_eq]
  decide

/-- … and with the node names sorted first (as in /repo) the text is a function of the node set -/
theorem cpdef_sorted_det {le : String → String → Bool} (ho : TotalOrder le) {π₁ π₂ : List String}
    (h : π₁ ~ π₂) : cpdefLinesSorted le π₁ = cpdefLinesSorted le π₂ :=
  congrArg cpdefLines (sorted_after_det ho h)

/-! ## the regenerated inventory -/

/-- the theorem(s) a `Cover` stands for -/
def Cover.statement : Cover → Prop
  | .importString => ∀ (K I R : Type) [DecidableEq K] (acc : K → I → Bool) (imp : K → I → R) (tbl : List K) (x : I),
      (∀ k₁ ∈ tbl, ∀ k₂ ∈ tbl, k₁ ≠ k₂ → ¬(acc k₁ x = true ∧ acc k₂ x = true)) →
      ∀ π₁ π₂, π₁ ~ tbl → π₂ ~ tbl → importString acc imp π₁ x = importString acc imp π₂ x
  | .firstMatchUnique => ∀ (α β : Type) (p : α → Bool) (g : α → β) (tbl : List α),
      (∀ a ∈ tbl, ∀ b ∈ tbl, p a = true → p b = true → g a = g b) →
      ∀ π₁ π₂, π₁ ~ tbl → π₂ ~ tbl → firstMatch p g π₁ = firstMatch p g π₂
  | .symbolTagger => ∀ (secs : List Sect), (secs.map (fun s => (s.kind, s.name))).Nodup →
      ∀ π₁ π₂, π₁ ~ secs → π₂ ~ secs → ∀ t, symbolTagger π₁ t = symbolTagger π₂ t
  | .framedWalk => ∀ (E K V : Type) (fp : E → K → Bool) (stepf : E → Store K V → Store K V) (fails : E → Bool),
      (∀ e, FrameStep (fp e) (stepf e)) → ∀ l : List E,
      l.Pairwise (fun a b => ∀ c, ¬(fp a c = true ∧ fp b c = true)) →
      ∀ π₁ π₂, π₁ ~ l → π₂ ~ l → ∀ s, walkE fails (fun s e => stepf e s) s π₁ = walkE fails (fun s e => stepf e s) s π₂
  | .keyedCopy => ∀ (K V : Type) [DecidableEq K] (entries : List (K × V)), (entries.map (·.1)).Nodup →
      ∀ π₁ π₂, π₁ ~ entries → π₂ ~ entries → ∀ d : Store K V,
        walk (fun d e => d.set e.1 e.2) d π₁ = walk (fun d e => d.set e.1 e.2) d π₂
  | .setInsert => ∀ π₁ π₂ : List String, π₁ ~ π₂ → ∀ s, walk reqInsert s π₁ = walk reqInsert s π₂
  | .membership => ∀ (α : Type) (p : α → Bool) (π₁ π₂ : List α), π₁ ~ π₂ → π₁.any p = π₂.any p ∧ π₁.all p = π₂.all p
  | .consumers => ∀ (ρ : Type) (c : Consumer ρ), Consumer.WF c → ∀ π₁ π₂, π₁ ~ π₂ →
      c.eval (getReqs π₁) = c.eval (getReqs π₂)

/-- every `Cover` named by a row of the table is a proved statement -/
theorem cover_sound (c : Cover) : Cover.statement c := by
  cases c with
  | importString => intro K I R _ acc imp tbl x d π₁ π₂ h₁ h₂; exact importString_det_of_disjoint acc imp tbl x d h₁ h₂
  | firstMatchUnique => intro α β p g tbl u π₁ π₂ h₁ h₂; exact first_match_det p g tbl u h₁ h₂
  | symbolTagger => intro secs hn π₁ π₂ h₁ h₂ t; exact symbolTagger_det secs hn h₁ h₂ t
  | framedWalk => intro E K V fp stepf fails hf l hd π₁ π₂ h₁ h₂ s; exact framed_walkE_det fp stepf fails hf l hd h₁ h₂ s
  | keyedCopy => intro K V _ entries hk π₁ π₂ h₁ h₂ d; exact keyed_copy_det entries hk h₁ h₂ d
  | setInsert => intro π₁ π₂ h s; exact set_insert_det h s
  | membership => intro α p π₁ π₂ h; exact membership_det p h
  | consumers => intro ρ c hc π₁ π₂ h; exact getReqs_consumers_det c hc h

/-- the extractor parsed and type-checked every anchored package -/
theorem no_extractor_problems : BMV.Gen.MapRanges.problems = [] := by decide +kernel

/-- the merge pass over the regenerated table and the hand-written one (kernel evaluation) -/
theorem sites_covered : Expect.covered BMV.Gen.MapRanges.sites Expect.rows = true := by decide +kernel

/-- REGENERATED OBLIGATION.  Every nondeterminism site of the current source (every `range` over
    a map or an order-tainted slice, every maps.Keys-style walk, every custom-comparator sort, every
    clock / rand / temp-path use, every `go` statement in the packages of the five tools) either has
    the generic collect-then-library-sort shape (`sortedKeysKey`; order independent by
    `sorted_after_det`, wherever the code lives) or is classified in the hand-written table with the
    same syntactic class.  A new site, or a site whose body changed class, makes this fail.
    "partial": being classified is not being order independent — rows may say `.unproved` or
    `.finding`; see `C07_full`.  (`key` = FNV-1a-64 of identity and class, `Sched.siteKey`; the
    table's keys are recomputed from its strings when BMV/SchedExpect.lean is compiled.) -/
theorem sites_classified_partial :
    ∀ s ∈ BMV.Gen.MapRanges.sites, s.key = sortedKeysKey ∨ ∃ r ∈ Expect.rows, r.key = s.key := by
  intro s hs
  by_cases hk : s.key = sortedKeysKey
  · exact Or.inl hk
  · refine Or.inr (Expect.coveredRows_sound _ _ sites_covered s ?_)
    simp only [mem_filter, bne_iff_ne, ne_eq]
    exact ⟨hs, hk⟩

/-- verdicts fit their classes ("sorted after" only where the extractor saw the sort; reasons
    are not empty) -/
theorem expect_admissible : ∀ r ∈ Expect.rows, r.admissible = true := by decide +kernel

/-- the full statement at inventory level: every site of the current source is closed by a
    theorem, a sort, or an order-insensitivity argument.  NOT proved (false today: the table has
    `.unproved` rows); kept visible. -/
def C07_full : Prop :=
  ∀ s ∈ BMV.Gen.MapRanges.sites, s.key = sortedKeysKey ∨ ∃ r ∈ Expect.rows, r.key = s.key ∧ r.verdict.closed = true

end BMV.Props.C07
