/-
  C11 — Saving and reloading a machine loses nothing.

  Property theorems only (model: BMV/Json.lean, lemmas: BMV/Proofs/Json.lean, regenerated struct
  field lists: BMV/Gen/Fields.lean, written from the Go source on every run by `h-c11 fields`).

  Statement (properties.jsonl): writing any BondMachine or single machine to its JSON form and
  loading it back gives a machine that is structurally equal to the original …; saving the reloaded
  machine reproduces the same JSON.  Loading never silently drops an opcode, a shared object or
  a bond.
      load(save(bm)) == bm,  save(load(save(bm))) == save(bm)

  Reading guide.
  * `reg0` is the registry (`Allopcodes` + `AllDynamicalInstructions`) of a *fresh* process of the
    loading tool; `reg` is that registry at the moment of loading (`Ext reg0 reg`: it may already
    have created any number of dynamic opcodes).  `CreateNames reg0` is `dyn_name_roundtrip` for
    the families of `reg0`; it is proved for the concrete registry in `std_createNames`.
  * `Resolvable reg0 m`: every opcode of `m` is a static opcode or the canonical product of the
    first family accepting its name.  `built_resolvable` shows that this is *every* opcode a tool
    process started from `reg0` can ever put into a machine (machines take their opcodes from
    `Allopcodes`), so the hypothesis excludes exactly: opcodes whose family cannot build them in
    the loading process (linear quantizer without `-linear-data-range`, FloPoCo without the
    external program) and names nothing knows.  `nil_opcode_iff` says that in exactly those cases
    `Dejsoner` leaves a nil entry.
  * equality is modulo the declared transient fields `CpID`, `Tag`, `SharedHDLOps`
    (`clearTransient`), see `fields_machine`.
-/
import BMV.Proofs.Json
import BMV.Gen.Fields
namespace BMV.Props.C11
open BMV.Json

/-! ## load ∘ save = id -/

/-- a single machine (`procbuilder` / `bondgo` files): reloading gives the machine back -/
theorem load_save_machine {reg0 reg : Registry} (hc : CreateNames reg0) (he : Ext reg0 reg)
    (m : Machine) (hr : Resolvable reg0 m) :
    (dejsoner reg (jsoner m)).2 = m.clearTransient.lift :=
  (dejsoner_jsoner hc he hr).1

/-- a whole BondMachine: domains (in order, the registry growing from one to the next), topology,
    shared objects and their links all come back -/
theorem load_save {reg0 reg : Registry} (hc : CreateNames reg0) (he : Ext reg0 reg) (b : BM)
    (hr : ∀ d ∈ b.domains, Resolvable reg0 d) (hv : ∀ so ∈ b.sos, so.Valid) :
    (dejsonerBM reg (jsonerBM b)).2 = b.clearTransient.lift := by
  have h := dejsonDomains_resolvable hc b.domains reg he hr
  simp only [dejsonerBM, jsonerBM, h.1, sos_roundtrip b.sos hv, BMOf.lift, BMOf.clearTransient,
    List.map_map]
  rfl

/-- loading leaves the process in a state from which everything stays resolvable (so a second
    file, or the same file again, loads equally well) -/
theorem load_keeps_registry {reg0 reg : Registry} (hc : CreateNames reg0) (he : Ext reg0 reg)
    (b : BM) (hr : ∀ d ∈ b.domains, Resolvable reg0 d) :
    Ext reg0 (dejsonerBM reg (jsonerBM b)).1 :=
  (dejsonDomains_resolvable hc b.domains reg he hr).2

/-! ## loading as the tools do it: `Dejsoner` followed by `Init` -/

/-- `Init` is idempotent (its own comment says so) -/
theorem init_idempotent {α β : Type} (b : BMOf α β) : initBM (initBM b) = initBM b := by
  unfold initBM
  cases h : b.slinks <;> simp [h]

/-- after `Init` (every tool calls it on every machine it creates or loads) `Shared_links` is never nil -/
theorem init_not_nil {α β : Type} (b : BMOf α β) : (initBM b).slinks ≠ none := by
  unfold initBM
  cases h : b.slinks <;> simp [h]

/-- `Init` never touches attachment lists that exist, whatever their number … -/
theorem init_keeps {α β : Type} (b : BMOf α β) (l : List (List Int)) (h : b.slinks = some l) :
    initBM b = b := by
  unfold initBM; simp [h]

/-- … and touches nothing but `Shared_links` -/
theorem init_frame {α β : Type} (b : BMOf α β) : { initBM b with slinks := b.slinks } = b := by
  cases b with
  | mk rsize domains processors inputs outputs iin iout links sos slinks =>
    cases slinks <;> rfl

/-- `Init` of a machine whose nil `Shared_links` comes with no processor (the only way it occurs)
    keeps the attachments, read with nil = no list -/
theorem init_attachments {α β : Type} (b : BMOf α β) (hs : b.slinks = none → b.processors = []) :
    attachments (initBM b) = attachments b := by
  unfold initBM attachments
  cases h : b.slinks with
  | none => simp [hs h]
  | some l => simp only [h]

/-- a machine whose `Shared_links` is not the nil slice (every machine with a processor:
    `Add_processor` appends a list) comes back unchanged from `Dejsoner` + `Init`: in particular
    every processor/shared-object attachment, for any relation between the number of domains and
    the number of processors -/
theorem load_init_save {reg0 reg : Registry} (hc : CreateNames reg0) (he : Ext reg0 reg) (b : BM)
    (hr : ∀ d ∈ b.domains, Resolvable reg0 d) (hv : ∀ so ∈ b.sos, so.Valid)
    (hs : b.slinks ≠ none) :
    (loadBM reg (jsonerBM b)).2 = b.clearTransient.lift := by
  simp only [loadBM, load_save hc he b hr hv]
  cases h : b.slinks with
  | none => exact absurd h hs
  | some l => exact init_keeps _ l h

/-- in general (nil `Shared_links` only occurs without processors) the attachments, read with
    nil = no list, are preserved and `Init` changes nothing else -/
theorem load_init_attachments {reg0 reg : Registry} (hc : CreateNames reg0) (he : Ext reg0 reg)
    (b : BM) (hr : ∀ d ∈ b.domains, Resolvable reg0 d) (hv : ∀ so ∈ b.sos, so.Valid)
    (hs : b.slinks = none → b.processors = []) :
    attachments (loadBM reg (jsonerBM b)).2 = attachments b ∧
    { (loadBM reg (jsonerBM b)).2 with slinks := b.slinks } = b.clearTransient.lift := by
  simp only [loadBM, load_save hc he b hr hv]
  exact ⟨init_attachments _ hs, init_frame _⟩

/-! ## save ∘ load ∘ save = save -/

theorem save_load_save_machine {reg0 reg : Registry} (hc : CreateNames reg0) (he : Ext reg0 reg)
    (m : Machine) (hr : Resolvable reg0 m) :
    jsonerL (dejsoner reg (jsoner m)).2 = some (jsoner m) := by
  rw [load_save_machine hc he m hr]
  simp only [jsonerL, check_lift, Option.map_some, jsoner_clearTransient]

theorem save_load_save {reg0 reg : Registry} (hc : CreateNames reg0) (he : Ext reg0 reg) (b : BM)
    (hr : ∀ d ∈ b.domains, Resolvable reg0 d) (hv : ∀ so ∈ b.sos, so.Valid) :
    jsonerBML (dejsonerBM reg (jsonerBM b)).2 = some (jsonerBM b) := by
  rw [load_save hc he b hr hv, jsonerBML, BMOf.check_lift, Option.map_some, jsonerBM_clearTransient]

/-! ## nothing is dropped silently -/

/-- unconditionally (any file, any registry): as many opcodes per domain, as many domains,
    shared objects, bond table entries and shared links come back as the file holds; the bond
    tables themselves are copied verbatim.  What can go wrong is only *nil entries*. -/
theorem counts_preserved (reg : Registry) (j : BMJson) :
    let l := (dejsonerBM reg j).2
    l.domains.length = j.domains.length ∧ l.sos.length = j.sos.length ∧
    l.links = j.links ∧ l.iin = j.iin ∧ l.iout = j.iout ∧ l.slinks = j.slinks ∧
    l.processors = j.processors ∧ bondCount l = (j.links.filter (· ≠ -1)).length := by
  simp only [dejsonerBM, dejsonDomains_length, List.length_map, bondCount, and_self]

theorem op_count_preserved (reg : Registry) (j : MachineJson) :
    (dejsoner reg j).2.ops.length = j.op.length := by
  simp only [dejsoner, dejsonOps_length]

/-- under the hypotheses of `load_save` no entry is nil: every opcode, shared object and bond of
    the saved machine is present in the loaded one -/
theorem no_silent_drop {reg0 reg : Registry} (hc : CreateNames reg0) (he : Ext reg0 reg) (b : BM)
    (hr : ∀ d ∈ b.domains, Resolvable reg0 d) (hv : ∀ so ∈ b.sos, so.Valid) :
    let l := (dejsonerBM reg (jsonerBM b)).2
    l.domains.length = b.domains.length ∧
    (l.domains.map fun d => d.ops.length) = (b.domains.map fun d => d.ops.length) ∧
    (∀ d ∈ l.domains, ∀ o ∈ d.ops, o ≠ none) ∧
    l.sos.length = b.sos.length ∧ (∀ s ∈ l.sos, s ≠ none) ∧
    bondCount l = bondCount b ∧ l.links = b.links ∧ l.iin = b.iin ∧ l.iout = b.iout := by
  intro l
  have hl : l = b.clearTransient.lift := load_save hc he b hr hv
  rw [hl]
  simp only [BMOf.lift, BMOf.clearTransient, List.length_map, List.map_map, bondCount,
    true_and, and_true]
  refine ⟨List.map_congr_left fun d _ => List.length_map .., ?_, ?_⟩
  · intro d hd o ho
    obtain ⟨d0, _, rfl⟩ := List.mem_map.mp hd
    obtain ⟨x, _, rfl⟩ := List.mem_map.mp ho
    exact Option.some_ne_none x
  · intro s hs
    obtain ⟨x, _, rfl⟩ := List.mem_map.mp hs
    exact Option.some_ne_none x

/-- exactly when `Dejsoner` leaves a nil opcode (the observable `nil-opcode`): no registered
    opcode has the name, and no family matches it or the first matching family fails to build it.
    The Go code returns no error in that case. -/
theorem nil_opcode_iff {reg : Registry} (hc : CreateNames reg) (n : String) :
    lookupLast (eventuallyCreate reg n).ops n = none ↔
      (∀ o ∈ reg.ops, o.name ≠ n) ∧
      ∀ f, reg.fams.find? (·.matchName n) = some f → f.create n = none := by
  rw [lookupLast_eq_none_iff]
  rcases ec_cases reg n with ⟨h, hwhy⟩ | ⟨f, op, hf, hop, hno, h⟩
  · rw [h]
    refine ⟨fun hno => ⟨hno, ?_⟩, fun h => h.1⟩
    rcases hwhy with ⟨o, ho, hn⟩ | hfam
    · exact absurd hn (hno o ho)
    · exact hfam
  · rw [h]
    have hname : op.name = n := hc f (List.mem_of_find?_eq_some hf) n op hop
    refine ⟨fun hall => absurd hname (hall op (by simp)), fun ⟨_, hfam⟩ => ?_⟩
    rw [hfam f hf] at hop; cases hop

/-! ## dynamic opcode names and shared-object descriptions -/

/-- each of the seven families builds an opcode whose name is the name it was created from
    (so the name written by `Jsoner` is accepted by the same matcher and re-creates it) -/
theorem dyn_name_roundtrip (cfg : FamConfig) (f : Fam) (n : String) (op : Opcode)
    (h : (stdFamily cfg f).create n = some op) : op.name = n ∧ op.fam = some f := by
  simp only [stdFamily, famCreate] at h
  cases f <;> simp only at h
  · split at h
    · cases h; exact ⟨rfl, rfl⟩
    · cases h
  · split at h
    · cases h
    · split at h
      · cases h; exact ⟨rfl, rfl⟩
      · cases h
  all_goals (cases h; exact ⟨rfl, rfl⟩)

theorem std_createNames (cfg : FamConfig) (statics : List String) :
    CreateNames (stdRegistry cfg statics) := by
  intro f hf n op h
  simp only [stdRegistry, stdFamilies, List.mem_map] at hf
  obtain ⟨k, _, rfl⟩ := hf
  exact (dyn_name_roundtrip cfg k n op h).1

/-- `EventuallyCreateInstruction(name)` followed by the lookup loop never returns an opcode of
    another name: whatever the lookup finds is called `name` -/
theorem lookup_name {reg : Registry} {n : String} {op : Opcode}
    (h : lookupLast (eventuallyCreate reg n).ops n = some op) : op.name = n :=
  (lookupLast_some h).1

/-- `Instantiate (String so) = so` for each of the nine shared-object kinds -/
theorem so_roundtrip (so : SO) (h : so.Valid) : instantiate so.toString = some so :=
  so_roundtrip_all so h

theorem so_roundtrip_sharedmem (d : Int) : instantiate (SO.sharedmem d).toString = some (.sharedmem d) := so_roundtrip _ trivial
theorem so_roundtrip_channel : instantiate SO.channel.toString = some .channel := so_roundtrip _ trivial
theorem so_roundtrip_barrier (t : Int) : instantiate (SO.barrier t).toString = some (.barrier t) := so_roundtrip _ trivial
theorem so_roundtrip_lfsr8 (s : Fin 256) : instantiate (SO.lfsr8 s).toString = some (.lfsr8 s) := so_roundtrip _ trivial
theorem so_roundtrip_queue (d : Int) : instantiate (SO.queue d).toString = some (.queue d) := so_roundtrip _ trivial
theorem so_roundtrip_stack (d : Int) : instantiate (SO.stack d).toString = some (.stack d) := so_roundtrip _ trivial
theorem so_roundtrip_uart (b d : Int) : instantiate (SO.uart b d).toString = some (.uart b d) := so_roundtrip _ trivial
theorem so_roundtrip_kbd (d : Int) : instantiate (SO.kbd d).toString = some (.kbd d) := so_roundtrip _ trivial
/-- a video text memory without boxes prints as `vtextmem`, which nothing accepts — but … -/
theorem so_roundtrip_vtextmem (bs : List Box) (h : bs ≠ []) :
    instantiate (SO.vtextmem bs).toString = some (.vtextmem bs) := so_roundtrip _ h
/-- … `Instantiate` (the only constructor the tools use) never builds one -/
theorem instantiate_valid (s : List Char) (so : SO) (h : instantiate s = some so) : so.Valid :=
  -- whatever any of the nine kinds builds is valid (only the video text memory has a condition)
  orElse_elim (instNum_valid fun _ => by trivial) (orElse_elim instChannel_valid (orElse_elim
    (instNum_valid fun _ => by trivial) (orElse_elim (instNum_valid fun _ => by trivial) (orElse_elim
    instVtextmem_valid (orElse_elim (instNum_valid fun _ => by trivial) (orElse_elim
    (instNum_valid fun _ => by trivial) (orElse_elim instUart_valid instKbd_valid))))))) so h

/-! ## every machine a tool process can build is resolvable -/

/-- the registry invariant: a fresh registry with distinct names satisfies it and
    `EventuallyCreateInstruction` (the only writer of `Allopcodes`) preserves it -/
theorem registry_init {reg0 : Registry} (h : reg0.names.Nodup) : Ext reg0 reg0 :=
  ⟨rfl, ⟨[], by simp, by simp⟩, h⟩

theorem registry_step {reg0 reg : Registry} (hc : CreateNames reg0) (he : Ext reg0 reg)
    (n : String) : Ext reg0 (eventuallyCreate reg n) := ext_step hc he n

/-- whatever opcode a process takes out of its registry — at any time, after any history of
    creations — is resolvable by a fresh process with the same families -/
theorem built_resolvable {reg0 reg : Registry} (he : Ext reg0 reg) (op : Opcode)
    (hm : op ∈ reg.ops) : ResolvableOp reg0 op := by
  obtain ⟨extra, hex, hcan⟩ := he.ops
  rw [hex] at hm
  rcases List.mem_append.mp hm with h | h
  · exact Or.inl h
  · refine Or.inr ⟨?_, hcan op h⟩
    have hnd := he.nodup
    simp only [Registry.names, hex, List.map_append] at hnd
    rw [List.nodup_append] at hnd
    intro hin
    exact hnd.2.2 _ hin _ (List.mem_map_of_mem (f := (·.name)) h) rfl

/-! ## regenerated obligations: the Go structs as they are in the source now -/

open BMV.Gen.Fields

/-- live fields that are deliberately not persisted.
    * `CpID`         — `Bondmachine.Write_verilog` sets `dom.Conproc.CpID = uint32(i)` for every
                       processor before emitting it (verilog.go); the simulator keeps its own
                       `VM.CpID` (vm.go).
    * `SharedHDLOps` — scratch accumulator of one `Write_verilog` call, reset at its start
                       (verilog.go: `dom.Conproc.SharedHDLOps = sharedHDLOps`).
    * `Tag`          — `Conproc.Write_verilog` sets `arch.Tag = fmt.Sprint(proc.CpID)` before any
                       opcode reads it (conproc.go).
    The correspondence run fills the three with random values before saving and requires
    byte-identical Verilog from the reloaded machine, which has them zeroed. -/
def transient : List String := ["CpID", "SharedHDLOps", "Tag"]

/-- how a live field type is stored: opcodes and shared objects by name, domains recursively -/
def persistedType : String → String
  | "[]Opcode" => "[]string"
  | "[]Shared_instance" => "[]string"
  | "[]*procbuilder.Machine" => "[]*procbuilder.Machine_json"
  | t => t

def persistedOf (live : List (String × String)) : List (String × String) :=
  (live.filter fun p => !transient.contains p.1).map fun p => (p.1, persistedType p.2)

/-- live-minus-transient = persisted, names and types, for `procbuilder.Machine` (flattened
    through Arch, Conproc, Rom, Ram, Program, Data) against `Machine_json` -/
theorem fields_machine : (persistedOf machineLive).isPerm machineJson = true := by decide +kernel

theorem fields_bm : (persistedOf bmLive).isPerm bmJson = true := by decide +kernel

/-- every transient field exists (a renamed field must not silently stay on the list) -/
theorem transient_exist : transient.all (fun t => (machineLive.map (·.1)).contains t) = true := by
  decide +kernel

/-- the model's records have exactly the fields of the Go structs (declaration order is free) -/
theorem model_fields_machine :
    (machineLive.map (·.1)).isPerm
      ["Modes", "CpID", "Rsize", "R", "N", "M", "Op", "Threaded", "SharedHDLOps", "O", "L",
       "Shared_constraints", "Tag", "WordSize", "Slocs", "Vars"] = true := by decide +kernel

theorem model_fields_bm :
    (bmLive.map (·.1)).isPerm
      ["Rsize", "Domains", "Processors", "Inputs", "Outputs", "Internal_inputs",
       "Internal_outputs", "Links", "Shared_objects", "Shared_links"] = true ∧
    bondFields.isPerm [("Map_to", "uint8"), ("Res_id", "int"), ("Ext_id", "int")] = true := by decide +kernel

/-- every persisted field is assigned from the field of the same name, and nothing else is
    assigned, in each of the four hand-written copy functions (flow extracted by go/ast) -/
def copiesExactly (persisted : List (String × String)) (assigns : List (String × List String)) : Bool :=
  assigns.all (fun a => a.2 == [a.1]) && persisted.all (fun p => assigns.contains (p.1, [p.1])) &&
  assigns.all (fun a => (persisted.map (·.1)).contains a.1)

theorem copies_machine_jsoner : copiesExactly machineJson machineJsonerAssigns = true := by decide +kernel
theorem copies_machine_dejsoner : copiesExactly machineJson machineDejsonerAssigns = true := by decide +kernel
theorem copies_bm_jsoner : copiesExactly bmJson bmJsonerAssigns = true := by decide +kernel
theorem copies_bm_dejsoner : copiesExactly bmJson bmDejsonerAssigns = true := by decide +kernel

/-- same struct names in the same (sorted) order, same fields up to declaration order -/
def sameStructs (a b : List (String × List (String × String))) : Bool :=
  a.length == b.length && (a.zip b).all fun p => p.1.1 == p.2.1 && p.1.2.isPerm p.2.2

/-- the shared-object instance structs carry exactly the parameters the model's `SO` has
    (a parameter added to a struct but not to `String()`/`Instantiate()` would be lost) -/
theorem so_instance_fields :
    sameStructs soInstances
      [("Barrier_instance", [("Shared_element", "Shared_element"), ("Timeout", "int")]),
       ("Channel_instance", [("Shared_element", "Shared_element")]),
       ("Kbd_instance", [("Shared_element", "Shared_element"), ("Depth", "int")]),
       ("Lfsr8_instance", [("Shared_element", "Shared_element"), ("Seed", "uint8")]),
       ("Queue_instance", [("Shared_element", "Shared_element"), ("Depth", "int")]),
       ("Sharedmem_instance", [("Shared_element", "Shared_element"), ("Depth", "int")]),
       ("Stack_instance", [("Shared_element", "Shared_element"), ("Depth", "int")]),
       ("Uart_instance", [("Shared_element", "Shared_element"), ("Depth", "int"), ("BaudRate", "int")]),
       ("Vtextmem_instance", [("Shared_element", "Shared_element"), ("Boxes", "[]GraphBox")])] = true ∧
    graphBoxFields.isPerm
      [("CP", "int"), ("Left", "int"), ("Top", "int"), ("Width", "int"), ("Height", "int")] = true := by
  decide +kernel

/-- order of the global registries (first match wins in both) -/
theorem registry_order :
    dynFamilies = ["DynFloPoCo", "DynLinearQuantizer", "DynRsets", "DynCall", "DynStack",
                   "DynFixedPoint", "DynFXP"] ∧
    sharedKinds = ["Sharedmem", "Channel", "Barrier", "Lfsr8", "Vtextmem", "Queue", "Stack",
                   "Uart", "Kbd"] := by decide +kernel

/-! ## non-vacuity -/

section Examples

def exCfg : FamConfig := { lqRanges := some [0, 1], flopoco := false }
def exReg : Registry := stdRegistry exCfg ["add", "nop", "rset"]
def exAdd : Opcode := ⟨"add", none, []⟩
def exRsets : Opcode := ⟨"rsets5", some .rsets, []⟩
def exLq : Opcode := ⟨"multlqs8t1", some .linq, []⟩
def exMachine : Machine :=
  { modes := ["ha"], cpID := 7, rsize := 8, r := 3, n := 1, m := 1, ops := [exAdd, exRsets, exLq],
    threaded := 0, sharedHDLOps := "x", o := 4, l := 2, sharedConstraints := "barrier:5",
    tag := "7", wordSize := 0, slocs := ["0101"], vars := [] }
def exBM : BM :=
  { rsize := 8, domains := [exMachine], processors := [0], inputs := 1, outputs := 1,
    iin := [⟨1, 0, 0⟩, ⟨2, 0, 0⟩], iout := [⟨0, 0, 0⟩, ⟨3, 0, 0⟩], links := [1, 0],
    sos := [.barrier 5, .vtextmem [⟨0, 1, 2, 3, 4⟩], .uart 115200 (-3), .lfsr8 200],
    slinks := some [[0, 1]] }

example : exReg.names.Nodup := by decide +kernel
example : CreateNames exReg := std_createNames _ _
example : ∀ so ∈ exBM.sos, so.Valid := by decide +kernel

/-- the hypotheses of `load_save` hold for a machine with a static, an `rsets` and a linear
    quantizer opcode … -/
example : Resolvable exReg exMachine := fun op hop =>
  (resolvableOpB_iff exReg op).mp
    ((by decide +kernel : ∀ op ∈ exMachine.ops, resolvableOpB exReg op = true) op hop)

/-- … the model really reloads it (computed, not assumed) … -/
example : (dejsonerBM exReg (jsonerBM exBM)).2 = exBM.clearTransient.lift := by decide +kernel

/-- … and really drops the quantizer opcode when the loader has no ranges: the `nil-opcode` case -/
example :
    ((dejsoner (stdRegistry { lqRanges := none, flopoco := false } ["add", "nop", "rset"])
      (jsoner exMachine)).2.ops) = [some exAdd, some exRsets, none] := by decide +kernel

example : instantiate "vtextmem".toList = none := by decide +kernel
example : (SO.vtextmem []).toString = "vtextmem".toList := by decide +kernel

end Examples

end BMV.Props.C11
