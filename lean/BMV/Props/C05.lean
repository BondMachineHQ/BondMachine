/-
  C05 — An assembled BASM program means what its source says.

  Property theorems only.  Model: BMV/Basm.lean (abstract syntax of the subset, the model
  assembler `Basm.assemble` — `fix = false`: the pass pipeline without the `entry` repair, `fix = true`:
  with it, as /repo has it since ad3d184 / 66563a4), BMV/BasmSem.lean (the reference interpreter `refStep`: direct
  interpretation of the source text), BMV/Isa.lean (the simulator, C01's model).  Lemmas:
  BMV/Proofs/Basm.lean, BMV/Proofs/BasmSem.lean; those about templates (`instItems_own`,
  `instItems_ifp`) stand with their definitions in BMV/BasmTempl.lean.

  Full statement (properties.jsonl):
      forall sources of the subset, register sizes:  sim(basm(src)) ~ ref_interp(src) on all outputs
  stated per processor as `def C05_full : Prop` and PROVED as `assemble_correct : C05_full` for the
  pipeline as it is in /repo since ad3d184 / 66563a4 (`assemble src true`): no hypothesis beyond
  `assemble src true = .ok bm`.  What is proved:
    * `label_after_entry_removal`, `addr_shift`, `opcode_index_stable` — the whole-program
      interactions the property names (removing the `entry` line shifts every later address; opcode
      numbers depend on the sorted set of opcodes of the whole section);
    * `mov_matcher_effect` — every source form (24 `matchLine` alternatives, blocking ones included):
      one `Isa.exec` of the assembled word = the reference effect of the *source* line;
    * `step_correct` — lock step for one tick of any `Assembled` section (a `Layout` with address
      shift δ, plus the architecture and ROM equations);
      `layout_of_pipelines` — both pipelines produce such a layout (δ = 0 / δ = `entryDelay`);
    * `assemble_correct` — every accepted source, every processor, every environment stream, every
      number of ticks: the simulator on the assembled ROM, started at address 0, does what the
      reference interpreter, started at the `entry` label, does on the section's text (program
      counter through the address map, registers, outputs, output-valid and input-recv flags);
      one extra tick at the start and addresses one higher exactly when the entry label is not on
      the first instruction; blocking i2rw / r2owa included (the reference waits where the
      handshake makes the processor wait);
    * `assemble_correct_entry_first` + `entry_ignored` — the pipeline of the unchanged tree: the same
      statement under `entryFirst`, and the counterexample showing it cannot be dropped there;
    * `network_component`, `network_correct` — the multi-processor network reference (`netRun`) is
      the product of the per-processor references under the environments the bonds induce, and
      every assembled processor implements its component;
    * `assemble_correct_templated`, `instance_depends_on_own_parameters`, `conditional_block` —
      templated sources (BMV/BasmTempl.lean): `assemble_correct` applies to what `instantiate`
      produces, an instance depends on its processor's parameters only, a conditional block is kept
      exactly for the processors that have the parameter.
  Not proved: that `bondmachine.VM.Step` moves data between processors as `envFor` says (C02 / C04;
  compared per tick by the whole-machine tie), and the concrete-syntax layer (`BasmText.parseSource`).
-/
import BMV.Proofs.Basm
import BMV.Proofs.BasmSem
import BMV.BasmTempl
namespace BMV.Props.C05
open BMV BMV.Bits BMV.Basm

/-- label table after the entry-line removal: a label attached to the instruction at source
    position `p` resolves to the number of *instructions* before `p` (the directive is gone, every
    later address has shifted by one), and the ROM line at that address is the matched form of that
    very source line — so a label operand denotes the instruction that followed the label. -/
theorem label_after_entry_removal (ls ls' : List Line) (mode : Option IoMode) (rs : List RLine)
    (h1 : removeEntry ls = .ok ls') (h2 : matchLines mode ls' = .ok rs) (hnd : hasDup (allLabels ls) = false)
    (p : Nat) (l : Line) (hl : ls[p]? = some l) (hne : isEntry l = false) :
    (∃ r : RLine, rs[addr ls p]? = some r ∧ r.labels = l.labels ∧ matchLine mode l = some (r.op, r.args)) ∧
    ∀ s ∈ l.labels, lookup (labelTable rs) s = some (addr ls p) :=
  label_after_entry_removal_aux h1 h2 hnd hl hne

/-- the address really shifts: lines before the directive keep their index, lines after it lose one -/
theorem addr_shift (ls : List Line) (e : Nat) (he : ∀ i l, ls[i]? = some l → (isEntry l = true ↔ i = e)) (p : Nat)
    (hp : p ≤ ls.length) : addr ls p = if p ≤ e then p else p - 1 := by
  induction p with
  | zero => simp [addr]
  | succ p ih =>
    have hlt : p < ls.length := by omega
    have ih' := ih (by omega)
    have hg : ls[p]? = some ls[p] := List.getElem?_eq_getElem hlt
    rw [addr_succ hg, ih']
    by_cases hpe : p = e
    · -- the directive itself: it is not counted, so the line after it takes its address
      rw [if_pos ((he p _ hg).mpr hpe), if_pos (Nat.le_of_eq hpe), if_neg (by omega)]; rfl
    · have : isEntry ls[p] = false := by
        cases h : isEntry ls[p] with
        | false => rfl
        | true => exact absurd ((he p _ hg).mp h) hpe
      rw [this, if_neg Bool.false_ne_true]
      by_cases hle : p ≤ e
      · rw [if_pos hle, if_pos (by omega)]
      · rw [if_neg hle, if_neg (by omega)]; omega

/-- opcode numbering: the opcode field of the k-th ROM word is the position of that line's real
    opcode in the *sorted set of opcodes used by the whole section* (adding or removing any other
    instruction of the section can change every word) -/
theorem opcode_index_stable (rsize : Nat) (rs : List RLine) (cp : CP) (h : mkCP rsize rs = .ok cp)
    (k : Nat) (r : RLine) (w : Bits) (hr : rs[k]? = some r) (hw : cp.prog[k]? = some w) :
    cp.arch.ops = opsOf rs ∧ (opsOf rs)[getId (w.take cp.arch.opBits)]? = some r.op :=
  opcode_index_aux h hr hw

/-! ### meaning: the reference interpreter and the simulator in lock step -/

/-- what is observable of a processor: where it is (`δ` = the address shift of the layout), its
    registers, its output ports with their valid flags, the recv flags of its input ports -/
structure ObsEq (a : Arch) (ls : List Line) (δ : Nat) (r : RefState) (vm : VmState) : Prop where
  pc : vm.pc = δ + addr ls r.pos
  regs : ∀ k, k < 2 ^ a.r → vm.regs[k]? = some (r.regs k)
  outs : ∀ k, k < a.m → vm.outputs[k]? = some (r.outputs k)
  outValid : ∀ k, k < a.m → vm.outValid[k]? = some (r.outValid k)
  inRecv : ∀ k, k < a.n → vm.inRecv[k]? = some (r.inRecv k)

/-- the environment stream the simulator sees: the reference interpreter's, preceded — when the
    first tick is spent on the jump at address 0 — by one arbitrary tick `e0` -/
def entryEnv (ls : List Line) (e0 : Env) (env : Nat → Env) : Nat → Env :=
  if entryDelay ls = 1 then delayEnv e0 env else env

/-- THE FULL STATEMENT (C05, per processor, the pipeline as it is in /repo since ad3d184 /
    66563a4): for every accepted source of the subset, every register size, every processor `i`,
    the section `sec` its `cpdef` names, every environment on its ports and every number of ticks:
    whatever the reference interpreter — started at the `entry` label — does on `sec`'s text, the
    assembled machine's processor — started at ROM address 0 — does: same program counter (through
    the address map), registers, outputs, output-valid and input-recv flags, after every tick.
    When the entry label is not on the first instruction the simulator needs one extra tick at the
    beginning (the jump the assembler placed at address 0) and every address is one higher.
    Blocking `iomode:sync` transfers are included: where the handshake makes the processor wait,
    the reference interpreter waits.  (Composition of processors through bonds is C02 / C04.) -/
def C05_full : Prop :=
  ∀ (src : Source) (bm : BM), assemble src true = .ok bm →
    ∀ (i : Nat) (c : CpDef) (cp : CP), src.procs[i]? = some c → bm.cps[i]? = some cp →
      ∃ sec ∈ src.sections, sec.name = c.romcode ∧
        ∀ (e0 : Env) (env : Nat → Env) (t : Nat) (r : RefState), refRun (SecCtx.of src sec) env t = some r →
          ∃ vm, isaRun cp.arch cp.prog (entryEnv sec.lines e0 env) (t + entryDelay sec.lines) = some vm ∧
            ObsEq cp.arch sec.lines (entryDelay sec.lines) r vm

/-- MATCHER EFFECT: a source line, the real instruction `matchLine` chose for it (for `mov`:
    rset / cpy / i2r / i2rw / r2o / r2owa by operand kinds and iomode), its assembled word: one
    `Isa.exec` of the word does to the simulator state exactly what the reference interpreter does
    to the reference state for the source line — including where execution continues (`A` =
    position ↦ address) and including the handshake state of the blocking forms. -/
theorem mov_matcher_effect (a : Arch) (c : SecCtx) (e : Env) (A : Nat → Nat) (plen : Nat) (l : Line) (op : String)
    (args : List Arg) (tbl : List (String × Nat)) (w : Bits) (r r' : RefState) (vm : VmState)
    (hm : matchLine c.mode l = some (op, args))
    (hasm : Encode.asm a ⟨op, args.map (resolveArg tbl)⟩ = .ok w)
    (hmode : a.mode = .ha) (hrs : a.rsize = c.rsize)
    (hsim : Sim a e A r vm)
    (hnext : A (skip c.lines (r.pos + 1)) = vm.pc + 1)
    (hlab : ∀ t p v, labelPos c.lines t = some p → lookup tbl t = some v → v = A p ∧ v < plen)
    (hex : execLine c e l r = some r') :
    ∃ vm', Isa.exec a plen op (w.drop a.opBits) vm = some vm' ∧ Sim a e A r' vm' ∧ PosNext c r r' :=
  exec_matches hm hasm hmode hrs hsim hnext hlab hex

/-- LOCK STEP, one tick, on the ROM assembled for a section with address shift `δ`: if the reference
    interpreter can make a step from `r`, the simulator makes the corresponding step from every state
    related to `r`, and the two stay related.  Blocking and non-blocking instructions alike: where
    the handshake makes the simulator wait, the reference interpreter waits too. -/
theorem step_correct (c : SecCtx) (rs : List RLine) (a : Arch) (ws : List Bits) (δ : Nat) (e : Env) (r r' : RefState)
    (vm : VmState) (hA : Assembled c rs a ws δ) (hsim : Sim a e (fun p => δ + addr c.lines p) r vm)
    (hpos : PosOk c.lines r.pos) (hex : refStep c e r = some r') :
    ∃ vm', Isa.step a ws vm = some vm' ∧ Sim a e (fun p => δ + addr c.lines p) r' vm' ∧ PosOk c.lines r'.pos :=
  step_correct_aux hA hsim hpos hex

/-- the two pipelines lay a section out as the lock-step proof needs (`Layout`): the unchanged one
    with no shift, the repaired one with `entryDelay` -/
theorem layout_of_pipelines (c : SecCtx) (ls' : List Line) (rs : List RLine) (hnd : hasDup (allLabels c.lines) = false)
    (hml : matchLines c.mode ls' = .ok rs) :
    (removeEntry c.lines = .ok ls' → Layout c rs 0) ∧ (removeEntryFix c.lines = .ok ls' → Layout c rs (entryDelay c.lines)) :=
  ⟨fun h => layout_unfixed h hml hnd, fun h => (layout_fixed h hml hnd).1⟩

theorem obs_of_sim {a : Arch} {e : Env} {ls : List Line} {δ : Nat} {r : RefState} {vm : VmState}
    (h : Sim a e (fun p => δ + addr ls p) r (envVm a e vm)) : ObsEq a ls δ r vm :=
  ⟨h.pc, fun _ hk => h.regs.get hk, fun _ hk => h.outs.get hk, fun _ hk => h.io.ov.get hk, fun _ hk => h.io.ir.get hk⟩

/-- AN ASSEMBLED PROGRAM MEANS WHAT ITS SOURCE SAYS: the full statement, for the repaired
    pipeline.  No hypothesis beyond `assemble src true = .ok bm`. -/
theorem assemble_correct : C05_full := by
  intro src bm h i c cp hc hcp
  obtain ⟨sec, hsec, hname, rs, hA, hside⟩ := assembled_of_assemble_fix h hc hcp
  refine ⟨sec, hsec, hname, ?_⟩
  intro e0 env t r hr
  rcases hside with ⟨hd, hz⟩ | ⟨hd, s, hj, hstart⟩
  · rw [hd] at hA
    obtain ⟨vm, hvm, hst, _⟩ := run_correct_zero hA hz env t r hr
    refine ⟨vm, ?_, ?_⟩
    · simp only [entryEnv, hd]; exact hvm
    · rw [hd]; exact obs_of_sim (hst e0)
  · rw [hd] at hA
    obtain ⟨vm, hvm, hst, _⟩ := run_correct_one hA hj hstart e0 env t r hr
    refine ⟨vm, ?_, ?_⟩
    · simp only [entryEnv, hd]; exact hvm
    · rw [hd]; exact obs_of_sim (hst e0)

/-- the same for the pipeline of the unchanged tree (`entry` recorded and ignored), where it
    holds: sources whose entry label is on the first instruction.  `entry_ignored` below shows the
    hypothesis cannot be dropped there. -/
theorem assemble_correct_entry_first (src : Source) (bm : BM) (h : assemble src false = .ok bm)
    (i : Nat) (c : CpDef) (cp : CP) (hc : src.procs[i]? = some c) (hcp : bm.cps[i]? = some cp) :
    ∃ sec ∈ src.sections, sec.name = c.romcode ∧
      (entryFirst sec.lines = true →
        ∀ (env : Nat → Env) (t : Nat) (r : RefState), refRun (SecCtx.of src sec) env t = some r →
          ∃ vm, isaRun cp.arch cp.prog env t = some vm ∧ ObsEq cp.arch sec.lines 0 r vm) := by
  obtain ⟨sec, hsec, hname, rs, hA⟩ := assembled_of_assemble h hc hcp
  refine ⟨sec, hsec, hname, ?_⟩
  intro hentry env t r hr
  have hz : ∀ p, startPos (SecCtx.of src sec).lines = some p → addr (SecCtx.of src sec).lines p = 0 := by
    intro p hp
    have : startPos sec.lines = some p := hp
    unfold entryFirst at hentry
    rw [this] at hentry
    show addr sec.lines p = 0
    simpa using hentry
  obtain ⟨vm, hvm, hst, _⟩ := run_correct_zero hA hz env t r hr
  exact ⟨vm, hvm, obs_of_sim (hst (env 0))⟩

/-! ### several processors -/

/-- COMPOSITION of the network reference (`netRun`: every processor's `refStep` on its section,
    ports joined as the source's `ioatt` pairs say): seen from processor `p`, the run of the whole
    machine is a run of the reference interpreter on `p`'s section under the environment the bonds
    induce.  (`netRun` is a function: the network reference is deterministic by construction.) -/
theorem network_component (ctxs : List SecCtx) (net : List (Topology.Bond × Topology.Bond)) (ext : Nat → ExtEnv)
    (t : Nat) (sts : List RefState) (h : netRun ctxs net ext t = some sts) :
    sts.length = ctxs.length ∧
    ∀ (p : Nat) (c : SecCtx), ctxs[p]? = some c →
      ∃ s, sts[p]? = some s ∧ refRun c (inducedEnv ctxs net ext p) t = some s :=
  net_component ctxs net ext t sts h

/-- … hence every processor of the assembled machine, run by the simulator on its ROM under the
    environment the network induces on its ports, does what the network reference says of it.
    (That `bondmachine.VM.Step` moves data between processors as `envFor` says is not proved here:
    it is C02/C04's matter and is compared per tick by the whole-machine tie.) -/
theorem network_correct (src : Source) (bm : BM) (h : assemble src true = .ok bm)
    (p : Nat) (c : CpDef) (cp : CP) (hc : src.procs[p]? = some c) (hcp : bm.cps[p]? = some cp) :
    ∃ sec ∈ src.sections, sec.name = c.romcode ∧
      ∀ (ctxs : List SecCtx) (net : List (Topology.Bond × Topology.Bond)) (ext : Nat → ExtEnv),
        ctxs[p]? = some (SecCtx.of src sec) →
        ∀ (e0 : Env) (t : Nat) (sts : List RefState), netRun ctxs net ext t = some sts →
          ∃ s vm, sts[p]? = some s ∧
            isaRun cp.arch cp.prog (entryEnv sec.lines e0 (inducedEnv ctxs net ext p)) (t + entryDelay sec.lines) = some vm ∧
            ObsEq cp.arch sec.lines (entryDelay sec.lines) s vm := by
  obtain ⟨sec, hsec, hname, hrun⟩ := assemble_correct src bm h p c cp hc hcp
  refine ⟨sec, hsec, hname, ?_⟩
  intro ctxs net ext hctx e0 t sts hnet
  obtain ⟨_, hcomp⟩ := net_component ctxs net ext t sts hnet
  obtain ⟨s, hs, hr⟩ := hcomp p _ hctx
  obtain ⟨vm, hvm, hobs⟩ := hrun e0 _ t s hr
  exact ⟨s, vm, hs, hvm, hobs⟩

/-! ### the `entry` directive on the unchanged tree -/

/-- the minimal source of the finding: an instruction placed before the entry label -/
def entrySrc : Source :=
  { rsize := some 8, iomode := some .async,
    sections := [{ name := "prog", lines :=
      [ { op := "rset", args := [.reg 0, .num 5] },
        { op := "entry", args := [.sym "start"] },
        { labels := ["start"], op := "inc", args := [.reg 0] },
        { op := "mov", args := [.out 0, .reg 0] },
        { op := "j", args := [.sym "start"] } ] }],
    cps := [{ name := "cpu", romcode := "prog" }] }

def romOf (r : Except Err BM) : List String :=
  match r with
  | .ok bm => (bm.cps.flatMap (·.prog)).map toString01
  | .error _ => []

/-- COUNTEREXAMPLE (unchanged tree): the source says "start at `start`" (position 2, i.e. ROM
    address 1), the assembled ROM has `rset r0 5` at address 0, where every processor starts. -/
theorem entry_ignored :
    (entrySrc.sections.map fun s => (startPos s.lines).map (addr s.lines)) = [some 1] ∧
    romOf (assemble entrySrc false) = ["11000000101", "00000000000", "10000000000", "01010000000"] := by
  decide +kernel

/-- with the repair the ROM begins with `j 2` and the label is at address 2 -/
theorem entry_honoured_example :
    romOf (assemble entrySrc true) = ["01010000000", "11000000101", "00000000000", "10000000000", "01010000000"] := by
  decide +kernel

/-! ### non-vacuity -/

/-- a source with labels, both jump kinds,
    `mov` in two of its meanings (register ← input, output ← register), an input and an output -/
def demoSrc : Source :=
  { rsize := some 8, iomode := some .async,
    sections := [{ name := "prog", lines :=
      [ { op := "entry", args := [.sym "top"] },
        { labels := ["top"], op := "mov", args := [.reg 1, .inp 0] },
        { op := "jz", args := [.reg 1, .sym "top"] },
        { labels := ["loop"], op := "add", args := [.reg 0, .reg 1] },
        { op := "mov", args := [.out 0, .reg 0] },
        { op := "dec", args := [.reg 1] },
        { op := "jz", args := [.reg 1, .sym "top"] },
        { op := "jmp", args := [.sym "loop"] } ] }],
    cps := [{ name := "cpu", romcode := "prog" }] }

def demoEnv : Nat → Env := fun t => { inputs := fun _ => if t < 3 then 0 else 3, inValid := fun _ => false, outRecv := fun _ => false }

example : (assemble demoSrc false).toOption.isSome = true := by decide +kernel
example : (demoSrc.sections.map fun s => entryFirst s.lines) = [true] := by decide +kernel
example : (assemble demoSrc true).toOption.isSome = true := by decide +kernel
-- the reference interpreter really runs (reads 0 three times, then 3; sums 3+2+1 into r0 / o0)
example : ((refRun (SecCtx.of demoSrc (demoSrc.sections.headD default)) demoEnv 20).map fun r => (r.regs 0, r.outputs 0, r.pos)) =
    some (6, 6, 1) := by decide +kernel

/-- blocking IO and an entry label that is not first (and a label written on the directive): the
    case `assemble_correct` needs its extra tick and its address shift for -/
def demoSync : Source :=
  { rsize := some 8, iomode := some .sync,
    sections := [{ name := "prog", lines :=
      [ { labels := ["here"], op := "entry", args := [.sym "go"] },
        { op := "clr", args := [.reg 1] },
        { labels := ["go"], op := "mov", args := [.reg 0, .inp 0] },
        { op := "mov", args := [.out 0, .reg 0] },
        { op := "inc", args := [.reg 1] },
        { op := "j", args := [.sym "here"] } ] }],
    cps := [{ name := "cpu", romcode := "prog" }] }

def syncSec : Section := demoSync.sections.headD default
def syncEnv : Nat → Env := fun t =>
  { inputs := fun _ => 7 + t, inValid := fun _ => t % 4 == 1 || t % 4 == 2, outRecv := fun _ => t % 3 == 2 }
def syncCp : CP := match assemble demoSync true with | .ok bm => bm.cps.headD default | .error _ => default
def anyEnv : Env := { inputs := fun _ => 99, inValid := fun _ => true, outRecv := fun _ => true }

example : romOf (assemble demoSync true) = ["011010", "000100", "001000", "100000", "010100", "011001"] := by decide +kernel
example : entryDelay syncSec.lines = 1 := by decide +kernel
-- eight ticks of the reference interpreter: one i2rw transfer (wait, take 8, withdraw recv), one
-- r2owa transfer (raise valid, wait for recv, drop valid), `inc`
example : ((refRun (SecCtx.of demoSync syncSec) syncEnv 8).map fun r =>
    [addr syncSec.lines r.pos, r.regs 0, r.regs 1, r.outputs 0, (r.outValid 0).toNat, (r.inRecv 0).toNat] ++ r.deferred) =
    some [0, 8, 1, 8, 0, 0] := by decide +kernel
-- … and the simulator on the assembled ROM after 8 + 1 ticks: address 0 + 1, the same registers and port
example : ((isaRun syncCp.arch syncCp.prog (entryEnv syncSec.lines anyEnv syncEnv) 9).map fun vm =>
    [vm.pc] ++ vm.regs ++ vm.outputs ++ vm.outValid.map Bool.toNat ++ vm.inRecv.map Bool.toNat ++ vm.deferred) =
    some [1, 8, 1, 8, 0, 0] := by decide +kernel

/-- line-level metadata: in a section whose mode is `async` (from the global setting) a `mov o0, r0` that carries
    `iomode:sync` is the blocking `r2owa`, the `mov r0, i0` next to it stays the non-blocking `i2r`; a line's
    own mode also decides where no other mode is given.  `assemble_correct` covers such sources as they are
    (`matchLine` and the reference interpreter's `ioKind` read the same `lineMode`). -/
def demoLineMode : Source :=
  { rsize := some 8, iomode := some .async,
    sections := [{ name := "prog", lines :=
      [ { op := "entry", args := [.sym "go"] },
        { labels := ["go"], op := "mov", args := [.reg 0, .inp 0] },
        { op := "mov", args := [.out 0, .reg 0], iomode := some .sync },
        { op := "j", args := [.sym "go"] } ] }],
    cps := [{ name := "cpu", romcode := "prog" }] }

example : (match assemble demoLineMode true with | .ok bm => bm.cps.map (·.arch.ops) | .error _ => []) = [["i2r", "j", "r2owa"]] := by decide +kernel
example : matchLine none { op := "mov", args := [.reg 1, .inp 0], iomode := some .sync } = some ("i2rw", [.reg 1, .inp 0]) := by decide +kernel
example : matchLine (some .sync) { op := "mov", args := [.out 0, .reg 1], iomode := some .async } = some ("r2o", [.reg 1, .out 0]) := by decide +kernel
example : matchLine none { op := "mov", args := [.out 0, .reg 1] } = none := by decide +kernel

/-- the integer instantiation of the library's arithmetic fragments (`multop` = `mult`, `divop` = `div`):
    200·3 = 600 ≡ 88 (mod 2^8), 88 / 3 = 29; a division by zero has no meaning in the reference -/
def demoArith : Source :=
  { rsize := some 8, iomode := some .async,
    sections := [{ name := "prog", lines :=
      [ { op := "entry", args := [.sym "go"] },
        { labels := ["go"], op := "rset", args := [.reg 0, .num 200] },
        { op := "rset", args := [.reg 1, .num 3] },
        { op := "mult", args := [.reg 0, .reg 1] },
        { op := "div", args := [.reg 0, .reg 1] },
        { op := "mov", args := [.out 0, .reg 0] },
        { op := "clr", args := [.reg 1] },
        { op := "div", args := [.reg 0, .reg 1] } ] }],
    cps := [{ name := "cpu", romcode := "prog" }] }

def arithSec : Section := demoArith.sections.headD default
def arithCp : CP := match assemble demoArith true with | .ok bm => bm.cps.headD default | .error _ => default
example : arithCp.arch.ops = ["clr", "div", "mult", "r2o", "rset"] := by decide +kernel
example : ((refRun (SecCtx.of demoArith arithSec) demoEnv 6).map fun r => (r.regs 0, r.regs 1, r.outputs 0)) = some (29, 0, 29) := by decide +kernel
example : ((isaRun arithCp.arch arithCp.prog demoEnv 6).map fun vm => (vm.regs, vm.outputs)) = some ([29, 0], [29]) := by decide +kernel
example : (refRun (SecCtx.of demoArith arithSec) demoEnv 7).isNone = true := by decide +kernel
example : (isaRun arithCp.arch arithCp.prog demoEnv 7).isNone = true := by decide +kernel

/-! ### templated sources (BMV/BasmTempl.lean): templating is a pre-pass -/

/-- a source with template sections and processor parameters means what its per-processor
    instantiation means: whatever `instantiate` produces is covered by `assemble_correct` as it stands
    (every processor of the instantiated source runs the instance made from ITS OWN parameters). -/
theorem assemble_correct_templated (ts : TSource) (src : Source) (bm : BM)
    (_hi : instantiate ts = some src) (ha : assemble src true = .ok bm) :
    ∀ (i : Nat) (c : CpDef) (cp : CP), src.procs[i]? = some c → bm.cps[i]? = some cp →
      ∃ sec ∈ src.sections, sec.name = c.romcode ∧
        ∀ (e0 : Env) (env : Nat → Env) (t : Nat) (r : RefState), refRun (SecCtx.of src sec) env t = some r →
          ∃ vm, isaRun cp.arch cp.prog (entryEnv sec.lines e0 env) (t + entryDelay sec.lines) = some vm ∧
            ObsEq cp.arch sec.lines (entryDelay sec.lines) r vm :=
  assemble_correct src bm ha

/-- the lines of a processor's instance depend on that processor's parameters only -/
theorem instance_depends_on_own_parameters (ps qs : Params) (items : List TItem)
    (h : ∀ n, ps.get n = qs.get n ∧ ps.has n = qs.has n) : instItems ps items = instItems qs items :=
  instItems_own ps qs items h

/-- a conditional block is kept exactly for the processors that have the parameter -/
theorem conditional_block (ps : Params) (n : String) (body : List TLine) (rest : List TItem) :
    instItems ps (.ifp n body :: rest) =
      (if ps.has n then
        (match body.mapM (instLine ps), instItems ps rest with | some xs, some ys => some (xs ++ ys) | _, _ => none)
       else instItems ps rest) :=
  instItems_ifp ps n body rest

/-- two processors on one templated section: `cpa` sets `twice`, `cpb` (later in name order) does not -/
def demoTempl : TSource :=
  { base := { rsize := some 8, iomode := some .async,
              cps := [{ name := "cpa", romcode := "main" }, { name := "cpb", romcode := "main" }] },
    templates := [{ name := "main", items :=
      [ .line { op := "entry", args := [.arg (.sym "start")] },
        .line { labels := ["start"], op := "mov", args := [.arg (.reg 0), .param "start"] },
        .line { labels := ["loop"], op := "inc", args := [.arg (.reg 0)] },
        .ifp "twice" [{ op := "inc", args := [.arg (.reg 0)] }],
        .line { op := "mov", args := [.arg (.out 0), .arg (.reg 0)] },
        .line { op := "j", args := [.arg (.sym "loop")] } ] }],
    params := [("cpa", [("start", .num 7), ("twice", .num 1)]), ("cpb", [("start", .num 9)])] }

def templSrc : Source := (instantiate demoTempl).getD {}
example : (instantiate demoTempl).isSome = true := by decide +kernel
example : templSrc.cps = [{ name := "cpa", romcode := "main_templ_0" }, { name := "cpb", romcode := "main_templ_1" }] := by decide +kernel
example : templSrc.sections.map (fun s => (s.name, s.lines.length)) = [("main_templ_0", 6), ("main_templ_1", 5)] := by decide +kernel
example : (match assemble templSrc true with | .ok bm => bm.cps.map (·.prog.length) | .error _ => []) = [5, 4] := by decide +kernel
-- the parameter of `cpa` does not reach `cpb`: after 4 ticks cpa shows 7+2, cpb 9+1
example : (templSrc.sections.map fun s => (refRun (SecCtx.of templSrc s) demoEnv 4).map fun r => r.outputs 0) = [some 9, some 10] := by decide +kernel
-- a processor without parameters cannot run a template section …
example : (instantiate { demoTempl with params := [("cpa", [("start", .num 7)])] }).isNone = true := by decide +kernel

/-- … but a PLAIN section may be shared by a parameterised processor (which gets its copy) and a
    processor without parameters (which runs it as it is): the section stays -/
def demoShared : TSource :=
  { base := { rsize := some 8, iomode := some .sync,
              sections := [{ name := "work", lines :=
                [ { op := "entry", args := [.sym "top"] },
                  { labels := ["top"], op := "inc", args := [.reg 0] },
                  { op := "mov", args := [.out 0, .reg 0] },
                  { op := "j", args := [.sym "top"] } ] }],
              cps := [{ name := "m1", romcode := "work" }, { name := "zed", romcode := "work" }] },
    params := [("m1", [("gain", .num 3)])] }
example : ((instantiate demoShared).map fun s => (s.sections.map (·.name), s.cps.map (·.romcode))) =
    some (["work", "work_templ_0"], ["work_templ_0", "work"]) := by decide +kernel
example : (match (instantiate demoShared).map (assemble · true) with | some (.ok bm) => bm.cps.map (·.prog.length) | _ => []) = [3, 3] := by decide +kernel

end BMV.Props.C05
