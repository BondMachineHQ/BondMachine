/-
  C13 — Generated stacks and queues never lose, duplicate or reorder an element.

  Property theorems only (helper lemmas: BMV/Proofs/Stack.lean; model: BMV/Stack.lean, a
  line-by-line model of the Verilog template pkg/bmstack/stackfile.go, tied to the code by the
  correspondence check of tools/props/c13.py: every register of the rendered module, cycle by cycle).

  Statement (properties.jsonl): for every generated LIFO or FIFO module (any depth, data width, number
  of senders and receivers) and every behaviour of the agents, each acknowledged write stores its
  value exactly once, each acknowledged read returns exactly the element the LIFO/FIFO discipline
  prescribes and removes it, nothing is accepted when full or returned when empty, the empty/full
  flags always reflect the number of stored elements, and a continuously requesting agent is
  acknowledged within a bounded number of cycles once space/data is available.

  Everything below is for EVERY configuration `c` (depth `D`, `nS` senders, `nR` receivers, LIFO or
  FIFO; `c.WF` = all three ≥ 1, no upper bound), every data type `α`, every reset value `z`, and
  ANY input valuation (agents need not follow the handshake for the safety theorems).
-/
import BMV.Proofs.Stack
namespace BMV.Props.C13
open BMV.Stack

variable {α : Type}

/-! ### concrete witnesses used by the non-vacuity examples -/

/-- FIFO, depth 3, two senders, two receivers -/
def cF : Cfg := ⟨true, 3, 2, 2⟩
/-- LIFO, depth 3, two senders, two receivers -/
def cL : Cfg := ⟨false, 3, 2, 2⟩
/-- a FIFO state with two elements stored across the wrap-around (`memory[2], memory[0]`),
    sender 1 and receiver 0 being served -/
def sF : S Nat :=
  { mem := fun i => 10 + i, sp := 2, rp := 2, wp := 1, sendSM := 1, recvSM := 0,
    sAck := fun _ => false, rAck := fun _ => false, rData := fun _ => 0 }
/-- a LIFO state with two elements -/
def sL : S Nat := { sF with rp := 0, wp := 0 }
/-- a full FIFO state (three elements, `readsp = writesp = 1`) -/
def sFull : S Nat := { sF with sp := 3, rp := 1, wp := 1 }
/-- nobody requests -/
def iIdle : In Nat := { reset := false, wr := fun _ => false, wdata := fun k => 100 + k, rd := fun _ => false }
/-- sender 1 writes 101 -/
def iW : In Nat := { iIdle with wr := fun k => k == 1 }
/-- receiver 0 reads (and sender 1 writes: reads have priority) -/
def iR : In Nat := { iW with rd := fun j => j == 0 }
/-- both senders write -/
def iWW : In Nat := { iIdle with wr := fun _ => true }
def iReset : In Nat := { iR with reset := true }

theorem cF_wf : cF.WF := by decide +kernel
theorem cL_wf : cL.WF := by decide +kernel
theorem sF_inv : Inv cF sF := ⟨by decide, by decide, by decide, by decide⟩
theorem sL_inv : Inv cL sL := ⟨by decide, by decide, by decide, by decide⟩
theorem sFull_inv : Inv cF sFull := ⟨by decide, by decide, by decide, by decide⟩

theorem inv_reset (z : α) {c : Cfg} (hc : c.WF) : Inv c (reset z) := inv_reset' z hc

/-- every clock edge preserves the invariant, under ANY input valuation -/
theorem inv_step (z : α) {c : Cfg} {s : S α} (i : In α) (hc : c.WF) (h : Inv c s) :
    Inv c (step z c s i) := inv_step' z i hc h

theorem inv_run (z : α) {c : Cfg} (hc : c.WF) (is : List (In α)) {s : S α} (h : Inv c s) :
    Inv c (run z c s is) := inv_run' z hc is h

theorem inv_reachable (z : α) {c : Cfg} (hc : c.WF) (is : List (In α)) :
    Inv c (run z c (reset z) is) := inv_run z hc is (inv_reset z hc)

-- non-vacuity: WF configurations and non-trivial invariant states exist; a wrapped FIFO state is
-- reached from reset by three writes, one read and a fourth write
example : cF.WF ∧ Inv cF sF ∧ Inv cL sL ∧ Inv cF sFull := ⟨cF_wf, sF_inv, sL_inv, sFull_inv⟩
example : let s := run 0 cF (reset 0) [iWW, iWW, iIdle, iWW, iR, iIdle, iR, iIdle, iWW]
    s.sp = 3 ∧ s.rp = 1 ∧ s.wp = 1 ∧ abs cF s = [101, 100, 101] := by decide +kernel

/-- the occupancy register is the number of stored elements -/
theorem abs_length (c : Cfg) (s : S α) : (abs c s).length = s.sp := by
  simp [abs]

/-- `empty` ↔ nothing stored -/
theorem flags_empty (c : Cfg) (s : S α) : s.empty = true ↔ abs c s = [] := by
  rw [empty_iff, ← List.length_eq_zero_iff, abs_length]

/-- `full` ↔ `D` elements stored -/
theorem flags_full (c : Cfg) (s : S α) : s.full c = true ↔ (abs c s).length = c.D := by
  rw [full_iff, abs_length]

/-- nothing is accepted when full -/
theorem no_write_when_full {c : Cfg} {s : S α} (i : In α) (h : s.full c = true) : wFire c s i = none := by
  simp [wFire, wBranch, h]

/-- nothing is returned when empty -/
theorem no_read_when_empty {c : Cfg} {s : S α} (i : In α) (h : s.empty = true) : rFire c s i = none := by
  simp [rFire, rBranch, h]

/-- never a read and a write in the same cycle -/
theorem not_both (c : Cfg) (s : S α) (i : In α) : ¬ ((rFire c s i).isSome ∧ (wFire c s i).isSome) := by
  rintro ⟨h1, h2⟩
  obtain ⟨j, hj⟩ := Option.isSome_iff_exists.mp h1
  obtain ⟨k, hk⟩ := Option.isSome_iff_exists.mp h2
  exact not_both_fire hj hk

-- non-vacuity: a full state refuses a requested write, a non-full one takes it; an empty state
-- refuses a requested read, a non-empty one serves it (and the simultaneous write waits)
example : sFull.full cF = true ∧ wFire cF sFull iW = none ∧ wFire cF sF iW = some 1 := by decide +kernel
example : (reset 0 : S Nat).empty = true ∧ rFire cF (reset 0) iR = none ∧ rFire cF sF iR = some 0 ∧
    wFire cF sF iR = none := by decide +kernel

/-- the cycle is a reset: the store becomes empty -/
def IsReset (z : α) (c : Cfg) (s : S α) (i : In α) : Prop :=
  i.reset = true ∧ abs c (step z c s i) = []

/-- no transfer: contents and receiver data registers unchanged -/
def IsIdle (z : α) (c : Cfg) (s : S α) (i : In α) : Prop :=
  i.reset = false ∧ rFire c s i = none ∧ wFire c s i = none ∧ abs c (step z c s i) = abs c s ∧
  ∀ j, (step z c s i).rData j = s.rData j

/-- the served sender `k` (requesting, not yet acknowledged, store not full) appends its datum -/
def IsWrite (z : α) (c : Cfg) (s : S α) (i : In α) : Prop :=
  i.reset = false ∧ ∃ k, wFire c s i = some k ∧ rFire c s i = none ∧ k < c.nS ∧ k = s.sendSM ∧
    i.wr k = true ∧ s.sAck k = false ∧ (abs c s).length < c.D ∧
    abs c (step z c s i) = abs c s ++ [i.wdata k] ∧ ∀ j, (step z c s i).rData j = s.rData j

/-- the served receiver `j` (requesting, not yet acknowledged) gets the element the discipline
    prescribes — FIFO: the oldest, LIFO: the newest — and that element leaves the store -/
def IsRead (z : α) (c : Cfg) (s : S α) (i : In α) : Prop :=
  i.reset = false ∧ ∃ j, rFire c s i = some j ∧ wFire c s i = none ∧ j < c.nR ∧ j = s.recvSM ∧
    i.rd j = true ∧ s.rAck j = false ∧
    (if c.fifo then abs c s = (step z c s i).rData j :: abs c (step z c s i)
     else abs c s = abs c (step z c s i) ++ [(step z c s i).rData j]) ∧
    ∀ j', j' ≠ j → (step z c s i).rData j' = s.rData j'

/-- every clock edge from a state satisfying the invariant is a reset, an idle cycle, one write by
    the served sender or one read by the served receiver (under ANY inputs; `c.WF` is not needed) -/
theorem refines (z : α) {c : Cfg} {s : S α} (i : In α) (h : Inv c s) :
    IsReset z c s i ∨ IsIdle z c s i ∨ IsWrite z c s i ∨ IsRead z c s i := by
  cases hres : i.reset
  case true => exact Or.inl ⟨hres, by rw [step_of_reset z c s i hres]; rfl⟩
  rcases rFire_cases (c := c) (s := s) (i := i) with hr | hr
  · rcases wFire_cases (c := c) (s := s) (i := i) with hw | hw
    · refine Or.inr (Or.inl ⟨hres, hr, hw, abs_idle z hres hr hw, ?_⟩)
      obtain ⟨-, -, -, -, hrData⟩ := step_idle z hres hr hw
      intro j; rw [hrData]
    · obtain ⟨-, -, hlt, hwr, hack, -⟩ := wFire_eq_some.mp hw
      refine Or.inr (Or.inr (Or.inl ⟨hres, s.sendSM, hw, hr, hlt, rfl, hwr, hack, ?_, abs_write z h hres hw, ?_⟩))
      · rw [abs_length]; exact Nat.lt_of_le_of_ne h.sp_le (wFire_sp_ne hw)
      · obtain ⟨-, -, -, -, hrData⟩ := step_write z hres hw
        intro j; rw [hrData]
  · obtain ⟨-, -, hlt, hrd, hack, -⟩ := rFire_eq_some.mp hr
    refine Or.inr (Or.inr (Or.inr ⟨hres, s.recvSM, hr, wFire_none_of_rFire hr, hlt, rfl, hrd, hack, ?_, ?_⟩))
    · cases hf : c.fifo
      · simp only [Bool.false_eq_true, if_false]; exact abs_read_lifo z h hf hres hr
      · simp only [if_true]; exact abs_read_fifo z h hf hres hr
    · obtain ⟨-, -, -, -, hrData⟩ := step_read z hres hr
      intro j' hj'; rw [hrData]; exact upd_ne _ _ hj'

/-- in particular every clock edge of every execution from reset -/
theorem refines_reachable (z : α) {c : Cfg} (hc : c.WF) (is : List (In α)) (i : In α) :
    let s := run z c (reset z) is
    IsReset z c s i ∨ IsIdle z c s i ∨ IsWrite z c s i ∨ IsRead z c s i :=
  refines z i (inv_reachable z hc is)

/-- … and exactly one of them -/
theorem refines_exclusive (z : α) (c : Cfg) (s : S α) (i : In α) :
    ¬ (IsReset z c s i ∧ IsIdle z c s i) ∧ ¬ (IsReset z c s i ∧ IsWrite z c s i) ∧
    ¬ (IsReset z c s i ∧ IsRead z c s i) ∧ ¬ (IsIdle z c s i ∧ IsWrite z c s i) ∧
    ¬ (IsIdle z c s i ∧ IsRead z c s i) ∧ ¬ (IsWrite z c s i ∧ IsRead z c s i) := by
  refine ⟨?_, ?_, ?_, ?_, ?_, ?_⟩
  · rintro ⟨⟨a, -⟩, ⟨b, -⟩⟩; rw [a] at b; cases b
  · rintro ⟨⟨a, -⟩, ⟨b, -⟩⟩; rw [a] at b; cases b
  · rintro ⟨⟨a, -⟩, ⟨b, -⟩⟩; rw [a] at b; cases b
  · rintro ⟨⟨-, -, a, -⟩, ⟨-, k, b, -⟩⟩; rw [a] at b; cases b
  · rintro ⟨⟨-, a, -⟩, ⟨-, j, b, -⟩⟩; rw [a] at b; cases b
  · rintro ⟨⟨-, k, -, a, -⟩, ⟨-, j, b, -⟩⟩; rw [a] at b; cases b

-- non-vacuity: each of the four kinds occurs from an invariant state; the FIFO read returns the
-- oldest element (12 from `memory[2]`, leaving [10]), the LIFO read the newest (11, leaving [10]),
-- the FIFO write lands behind the wrapped pair
example : abs cF sF = [12, 10] ∧ abs cL sL = [10, 11] := by decide +kernel
example : IsReset 0 cF sF iReset := ⟨rfl, rfl⟩
example : IsIdle 0 cF sF iIdle := ⟨rfl, by decide, by decide, by decide, fun _ => rfl⟩
example : IsWrite 0 cF sF iW ∧ abs cF (step 0 cF sF iW) = [12, 10, 101] :=
  ⟨⟨rfl, 1, by decide, by decide, by decide, by decide, by decide, by decide, by decide, by decide,
    fun _ => rfl⟩, by decide⟩
example : IsRead 0 cF sF iR :=
  ⟨rfl, 0, by decide, by decide, by decide, by decide, by decide, by decide, by decide,
    fun j' h => by show (if j' = 0 then _ else _) = _; rw [if_neg h]⟩
example : rFire cF sF iR = some 0 ∧ (step 0 cF sF iR).rData 0 = 12 ∧ abs cF (step 0 cF sF iR) = [10] := by
  decide +kernel
example : rFire cL sL iR = some 0 ∧ (step 0 cL sL iR).rData 0 = 11 ∧ abs cL (step 0 cL sL iR) = [10] := by
  decide +kernel

/-- a sender's Ack rises in exactly the cycle of its transfer (any inputs, no invariant needed) -/
theorem ack_iff_transfer_write (z : α) {c : Cfg} {s : S α} {i : In α} {k : Nat} (hk : k < c.nS)
    (hres : i.reset = false) :
    (s.sAck k = false ∧ (step z c s i).sAck k = true) ↔ wFire c s i = some k := by
  rw [step_sAck_eq z hres hk]
  constructor
  · rintro ⟨a, b⟩
    by_cases e : wFire c s i = some k
    · exact e
    · rw [if_neg e, a, Bool.and_false] at b; cases b
  · intro e
    obtain ⟨-, -, -, -, ha, rfl⟩ := wFire_eq_some.mp e
    exact ⟨ha, if_pos e⟩

/-- a receiver's Ack rises in exactly the cycle of its transfer -/
theorem ack_iff_transfer_read (z : α) {c : Cfg} {s : S α} {i : In α} {j : Nat} (hj : j < c.nR)
    (hres : i.reset = false) :
    (s.rAck j = false ∧ (step z c s i).rAck j = true) ↔ rFire c s i = some j := by
  rw [step_rAck_eq z hres hj]
  constructor
  · rintro ⟨a, b⟩
    by_cases e : rFire c s i = some j
    · exact e
    · rw [if_neg e, a, Bool.and_false] at b; cases b
  · intro e
    obtain ⟨-, -, -, -, ha, rfl⟩ := rFire_eq_some.mp e
    exact ⟨ha, if_pos e⟩

/-- the Ack is held while the request stays up -/
theorem ack_held_write (z : α) {c : Cfg} {s : S α} {i : In α} {k : Nat} (hres : i.reset = false)
    (ha : s.sAck k = true) (hw : i.wr k = true) : (step z c s i).sAck k = true := by
  rw [step_sAck z c s i hres]
  simp only [ha, hw, Bool.not_true, Bool.and_false, Bool.false_and, Bool.false_eq_true, if_false, ite_self]

theorem ack_held_read (z : α) {c : Cfg} {s : S α} {i : In α} {j : Nat} (hres : i.reset = false)
    (ha : s.rAck j = true) (hr : i.rd j = true) : (step z c s i).rAck j = true := by
  rw [step_rAck z c s i hres]
  simp only [ha, hr, Bool.not_true, Bool.and_false, Bool.false_and, Bool.false_eq_true, if_false, ite_self]

/-- dropping the request clears the Ack in the next cycle -/
theorem ack_drops_write (z : α) {c : Cfg} {s : S α} {i : In α} {k : Nat} (hres : i.reset = false)
    (hk : k < c.nS) (hw : i.wr k = false) : (step z c s i).sAck k = false := by
  rw [step_sAck z c s i hres, if_pos hk]
  simp only [hw, Bool.and_false, Bool.false_and, Bool.false_eq_true, if_false, Bool.not_false, if_true]

theorem ack_drops_read (z : α) {c : Cfg} {s : S α} {i : In α} {j : Nat} (hres : i.reset = false)
    (hj : j < c.nR) (hr : i.rd j = false) : (step z c s i).rAck j = false := by
  rw [step_rAck z c s i hres, if_pos hj]
  simp only [hr, Bool.false_and, Bool.false_eq_true, if_false, Bool.not_false, if_true]

/-- one request (the `Write` line held high over any number of cycles, from any state) stores its
    value at most once: `wCount` counts the cycles of the history in which sender `k` transfers -/
theorem at_most_one_transfer_per_request_write (z : α) (c : Cfg) (k : Nat) (s : S α) (is : List (In α))
    (hreq : ∀ i ∈ is, i.reset = false ∧ i.wr k = true) : wCount z c k s is ≤ 1 :=
  Nat.le_trans (wCount_le z c k is s hreq) (by split <;> decide)

/-- one read request removes at most one element -/
theorem at_most_one_transfer_per_request_read (z : α) (c : Cfg) (j : Nat) (s : S α) (is : List (In α))
    (hreq : ∀ i ∈ is, i.reset = false ∧ i.rd j = true) : rCount z c j s is ≤ 1 :=
  Nat.le_trans (rCount_le z c j is s hreq) (by split <;> decide)

-- non-vacuity: the transfer of sender 1 raises its Ack; holding the request for three more cycles
-- keeps the Ack and transfers exactly once (so the bound 1 is attained); dropping it clears the Ack
example : wFire cF sF iW = some 1 ∧ sF.sAck 1 = false ∧ (step 0 cF sF iW).sAck 1 = true := by decide +kernel
example : (run 0 cF sF [iW, iW, iW]).sAck 1 = true ∧ wCount 0 cF 1 sF [iW, iW, iW] = 1 ∧
    abs cF (run 0 cF sF [iW, iW, iW]) = [12, 10, 101] := by decide +kernel
example : (run 0 cF sF [iW, iIdle]).sAck 1 = false := by decide +kernel
example : rCount 0 cF 0 sF [iR, iR, iR] = 1 ∧ (run 0 cF sF [iR, iR, iR]).rAck 0 = true ∧
    (run 0 cF sF [iR, iR, iIdle]).rAck 0 = false := by decide +kernel

/-- under the invariant every register value fits the width the template declares for it
    (`bits (Depth+1)` for `sp`, `readsp`, `writesp`; `bits (len Senders)`, `bits (len Receivers)`
    for the round-robin pointers), so the model's unbounded naturals lose nothing -/
theorem fits {c : Cfg} {s : S α} (hc : c.WF) (h : Inv c s) :
    s.sp < 2 ^ neededBits (c.D + 1) ∧ s.rp < 2 ^ neededBits (c.D + 1) ∧ s.wp < 2 ^ neededBits (c.D + 1) ∧
    s.sendSM < 2 ^ neededBits c.nS ∧ s.recvSM < 2 ^ neededBits c.nR := by
  have hD : c.D + 1 ≤ 2 ^ neededBits (c.D + 1) := le_two_pow_neededBits (by omega)
  have hS := le_two_pow_neededBits hc.2.1
  have hR := le_two_pow_neededBits hc.2.2
  have h1 := h.sp_le; have h2 := h.sendSM_lt; have h3 := h.recvSM_lt
  have h4 : s.rp < c.D ∧ s.wp < c.D := by
    cases hf : c.fifo
    · obtain ⟨a, b⟩ := h.lifo hf; have := hc.1; omega
    · obtain ⟨a, b, -⟩ := h.ring hf; exact ⟨a, b⟩
  omega

/-- under the invariant no natural-number subtraction of the template's pointer arithmetic
    truncates and every memory index is in range.  (The remaining two subtractions, `writesp -
    readsp - 1` and `writesp - readsp + 1`, are guarded by their own branch conditions.)  Together
    with `fits` and `inv_step` (the results are `sp ± 1` and pointers `< D`) the width-truncated
    evaluation of the emitted Verilog agrees with the model. -/
theorem exact_arith {c : Cfg} {s : S α} (hc : c.WF) (h : Inv c s) (i : In α) :
    -- `Depth - 1` and `len - 1` in `next`
    1 ≤ c.D ∧ 1 ≤ c.nS ∧ 1 ≤ c.nR ∧
    -- FIFO: `Depth - readsp - 1 + writesp`, `Depth - readsp`, `Depth - readsp + writesp + 1`
    (c.fifo = true → s.rp + 1 ≤ c.D) ∧
    -- a read transfer: `sp - 1`, `memory[sp-1]` (LIFO), `memory[readsp]` (FIFO)
    (∀ j, rFire c s i = some j → 1 ≤ s.sp ∧ (if c.fifo then s.rp else s.sp - 1) < c.D ∧
      (readPtrs c s).1 + 1 = s.sp) ∧
    -- a write transfer: `memory[sp]` (LIFO), `memory[writesp]` (FIFO), `sp + 1 ≤ Depth`
    (∀ k, wFire c s i = some k → (if c.fifo then s.wp else s.sp) < c.D ∧ (writePtrs c s).1 = s.sp + 1) := by
  refine ⟨hc.1, hc.2.1, hc.2.2, ?_, ?_, ?_⟩
  · intro hf; have := (h.ring hf).1; omega
  · intro j hr
    have hpos := rFire_sp_pos hr
    have hle := h.sp_le
    refine ⟨hpos, ?_, (readPtrs_spec h hpos).1⟩
    cases hf : c.fifo
    · simp only [Bool.false_eq_true, if_false]; omega
    · simp only [if_true]; exact (h.ring hf).1
  · intro k hw
    have hlt : s.sp < c.D := Nat.lt_of_le_of_ne h.sp_le (wFire_sp_ne hw)
    refine ⟨?_, (writePtrs_spec h hlt).1⟩
    cases hf : c.fifo
    · simp only [Bool.false_eq_true, if_false]; exact hlt
    · simp only [if_true]; exact (h.ring hf).2.1

-- non-vacuity: widths of the depth-3 instances (2 bits hold `sp ≤ 3`, 1 bit holds the pointers 0..1);
-- the transfers the arithmetic facts speak about do occur in invariant states
example : neededBits (cF.D + 1) = 2 ∧ neededBits cF.nS = 1 ∧ sFull.sp = 3 ∧ sF.sendSM = 1 := by decide +kernel
example : neededBits 1 = 1 ∧ neededBits 5 = 3 ∧ neededBits 8 = 3 ∧ neededBits 9 = 4 := by decide +kernel
example : rFire cL sL iR = some 0 ∧ wFire cF sF iW = some 1 ∧ rFire cF sFull iR = some 0 := by decide +kernel

/-- a receiver that keeps its request up while the store is non-empty is served within `nR` cycles:
    `recvSM` rotates in every such cycle, whatever the other agents do -/
theorem bounded_response_read (z : α) {c : Cfg} {s : S α} (inp : Nat → In α) {j : Nat} (hc : c.WF)
    (h : Inv c s) (hj : j < c.nR) (ha : s.rAck j = false)
    (hreq : ∀ t < c.nR, (inp t).reset = false ∧ (inp t).rd j = true ∧ (stateAt z c s inp t).empty = false) :
    ∃ t < c.nR, rFire c (stateAt z c s inp t) (inp t) = some j := by
  apply Classical.byContradiction
  intro hno
  have hnf : ∀ t < c.nR, rFire c (stateAt z c s inp t) (inp t) ≠ some j := fun t ht e => hno ⟨t, ht, e⟩
  obtain ⟨-, -, d⟩ := read_wait_trace z hc inp hj h.recvSM_lt ha c.nR hreq hnf
  have := dist_lt h.recvSM_lt hj
  omega

/-- a sender that keeps its request up for `T` cycles is served within them as soon as `nS` of those
    cycles are write-enabled (no read takes the cycle — reads have priority — and the store is not
    full): `sendSM` rotates in exactly those cycles, whatever the other agents do -/
theorem bounded_response_write (z : α) {c : Cfg} {s : S α} (inp : Nat → In α) {k : Nat} (T : Nat) (hc : c.WF)
    (h : Inv c s) (hk : k < c.nS) (ha : s.sAck k = false)
    (hreq : ∀ t < T, (inp t).reset = false ∧ (inp t).wr k = true)
    (hen : c.nS ≤ enabledCount z c s inp T) :
    ∃ t < T, wFire c (stateAt z c s inp t) (inp t) = some k := by
  apply Classical.byContradiction
  intro hno
  have hnf : ∀ t < T, wFire c (stateAt z c s inp t) (inp t) ≠ some k := fun t ht e => hno ⟨t, ht, e⟩
  obtain ⟨-, -, d⟩ := write_wait_trace z hc inp hk h.sendSM_lt ha T hreq hnf
  have := dist_lt h.sendSM_lt hk
  omega

/-- special case: `nS` consecutive write-enabled cycles suffice -/
theorem bounded_response_write_consecutive (z : α) {c : Cfg} {s : S α} (inp : Nat → In α) {k : Nat}
    (hc : c.WF) (h : Inv c s) (hk : k < c.nS) (ha : s.sAck k = false)
    (hreq : ∀ t < c.nS, (inp t).reset = false ∧ (inp t).wr k = true ∧
      (stateAt z c s inp t).full c = false ∧ rBranch c (stateAt z c s inp t) (inp t) = false) :
    ∃ t < c.nS, wFire c (stateAt z c s inp t) (inp t) = some k := by
  refine bounded_response_write z inp c.nS hc h hk ha (fun t ht => ⟨(hreq t ht).1, (hreq t ht).2.1⟩) ?_
  rw [enabledCount_all z c s inp c.nS]
  · exact Nat.le_refl _
  · intro t ht
    obtain ⟨-, -, a, b⟩ := hreq t ht
    simp [wEnabled, a, b]

/-- the wording of DESIGN.md: if every OTHER agent drops its request within `B` cycles of its Ack, a
    sender that keeps requesting sees its Ack within `nS·(B+2)` cycles provided the store is not
    permanently full and no reader monopolises (reads have priority) — made precise as: at least `nS`
    of those cycles are write-enabled; a receiver that keeps requesting while the store is not
    empty sees its Ack within `nR·(B+2)` cycles -/
def bounded_response_full : Prop :=
  ∀ (α : Type) (z : α) (c : Cfg) (s : S α) (inp : Nat → In α) (B : Nat), c.WF → Inv c s →
    (∀ k, k < c.nS → s.sAck k = false →
      -- handshake discipline of the other senders
      (∀ t k', k' < c.nS → k' ≠ k → (stateAt z c s inp t).sAck k' = true →
        ∃ t', t' ≤ t + B ∧ (inp t').wr k' = false) →
      (∀ t < c.nS * (B + 2), (inp t).reset = false ∧ (inp t).wr k = true) →
      c.nS ≤ enabledCount z c s inp (c.nS * (B + 2)) →
      ∃ t < c.nS * (B + 2), wFire c (stateAt z c s inp t) (inp t) = some k ∧
        (stateAt z c s inp (t + 1)).sAck k = true) ∧
    (∀ j, j < c.nR → s.rAck j = false →
      -- handshake discipline of the other receivers
      (∀ t j', j' < c.nR → j' ≠ j → (stateAt z c s inp t).rAck j' = true →
        ∃ t', t' ≤ t + B ∧ (inp t').rd j' = false) →
      (∀ t < c.nR * (B + 2), (inp t).reset = false ∧ (inp t).rd j = true ∧
        (stateAt z c s inp t).empty = false) →
      ∃ t < c.nR * (B + 2), rFire c (stateAt z c s inp t) (inp t) = some j ∧
        (stateAt z c s inp (t + 1)).rAck j = true)

/-- it holds, with room to spare: the template rotates its pointers unconditionally, so the bounds
    `nS` (write-enabled cycles) and `nR` of the theorems above apply and the handshake hypotheses on
    the other agents are not even needed -/
theorem bounded_response_full_holds : bounded_response_full := by
  intro α z c s inp B hc h
  have hmul : ∀ n : Nat, n ≤ n * (B + 2) := fun n => Nat.le_mul_of_pos_right n (by omega)
  constructor
  · intro k hk ha _ hreq hen
    obtain ⟨t, ht, hf⟩ := bounded_response_write z inp _ hc h hk ha hreq hen
    exact ⟨t, ht, hf, ((ack_iff_transfer_write z hk (hreq t ht).1).mpr hf).2⟩
  · intro j hj ha _ hreq
    obtain ⟨t, ht, hf⟩ := bounded_response_read z inp hc h hj ha
      (fun t ht => hreq t (Nat.lt_of_lt_of_le ht (hmul _)))
    have hres := (hreq t (Nat.lt_of_lt_of_le ht (hmul _))).1
    exact ⟨t, Nat.lt_of_lt_of_le ht (hmul _), hf, ((ack_iff_transfer_read z hj hres).mpr hf).2⟩

/-- everybody reads -/
def iRR : In Nat := { iIdle with rd := fun _ => true }
/-- both senders write all the time, receiver 0 reads in cycle 1 -/
def inpW (t : Nat) : In Nat := if t = 1 then { iWW with rd := fun j => j == 0 } else iWW

-- non-vacuity: receiver 1 (one position away from `recvSM = 0`) is served in cycle 1 of an
-- all-read stream on the two-element FIFO; its hypotheses hold
example : ∃ t < cF.nR, rFire cF (stateAt 0 cF sF (fun _ => iRR) t) iRR = some 1 :=
  bounded_response_read 0 (fun _ => iRR) cF_wf sF_inv (by decide) (by decide) (by decide)
example : rFire cF (stateAt 0 cF sF (fun _ => iRR) 1) iRR = some 1 := by decide +kernel
-- sender 1 waits from reset: cycle 0 serves sender 0, cycle 1 is taken by a read, cycle 2 serves it;
-- 2 = nS of the first 3 cycles are write-enabled
example : enabledCount 0 cF (reset 0) inpW 3 = 2 ∧ wFire cF (stateAt 0 cF (reset 0) inpW 2) (inpW 2) = some 1 := by
  decide +kernel
example : ∃ t < 3, wFire cF (stateAt 0 cF (reset 0) inpW t) (inpW t) = some 1 :=
  bounded_response_write 0 inpW 3 cF_wf (inv_reset 0 cF_wf) (by decide) (by decide) (by decide) (by decide)
-- the hypotheses of `bounded_response_full` are jointly satisfiable: from reset, sender 1 alone
-- requests for ever (sender 0 never does, so it trivially obeys the handshake with B = 0);
-- all nS·(B+2) = 4 cycles are write-enabled and sender 1 is served in cycle 1
example : (∀ t k', k' < cF.nS → k' ≠ 1 → (stateAt 0 cF (reset 0) (fun _ => iW) t).sAck k' = true →
      ∃ t', t' ≤ t + 0 ∧ ((fun _ => iW) t').wr k' = false) ∧
    (∀ t < cF.nS * (0 + 2), ((fun _ => iW) t).reset = false ∧ ((fun _ => iW) t).wr 1 = true) ∧
    cF.nS ≤ enabledCount 0 cF (reset 0) (fun _ => iW) (cF.nS * (0 + 2)) ∧
    wFire cF (stateAt 0 cF (reset 0) (fun _ => iW) 1) iW = some 1 :=
  ⟨fun _ k' _ hne _ => ⟨0, Nat.zero_le _, by show (k' == 1) = false; simpa using hne⟩,
   by decide, by decide, by decide⟩

end BMV.Props.C13
