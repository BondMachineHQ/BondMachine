/-
  C14 — Compiled quantum circuits implement the circuit's unitary.

  Property theorems only (model: BMV/Quantum.lean, a hand-written model of pkg/bmqsim/bmqsim.go and
  of the bmmatrix operations it uses; lemmas: BMV/Proofs/Quantum*.lean; tie: tools/props/c14.py).

  Statement (properties.jsonl): for every quantum circuit over the supported gate set and every
  assignment of gates to qubits (adjacent or not, in either order), the sequence of matrices the
  compiler emits multiplies to the unitary defined by applying each gate to the named qubits in
  program order, each emitted matrix is unitary, and the software simulation maps every basis
  state to that unitary's column.   forall n in 1..5 qubits . forall gate sequences ...

  What is proved, over EVERY lawful commutative semiring `R` and every choice of gate matrices
  (so in particular over ℂ; float32 is an assumed approximation, compared with tolerance in the tie):

  * the model of `BmMatrixFromOperation` WITH THE REPAIR (`layer false`, positions of a multi-qubit
    gate's arguments taken from the current local order) maps every layer of disjoint gates on
    n ≤ 5 qubits to the product of the gates' embeddings (`layer_eq_layerRef_upto5`,
    `layer_eq_embed_upto5`).  The range n ≤ 5 is the property's own quantifier; it enters through a
    kernel-checked (`decide +kernel`) certificate over ALL layer shapes (`certificate_*`), lifted to
    arbitrary gate matrices by the general lemma `layer_of_check`.
  * the model of the code AS PINNED (`layer true`, positions taken from `sim.qbitsNum`) violates the
    statement: `pinned_code_counterexample` (4 qubits, `g0 q0 q2 ; g1 q1 q3`).  This is the defect the
    correspondence reports on the unchanged tree (docs/C14.md).
  * `compile_prod_upto5`, `sim_column_upto5`: product of the emitted matrices = Uref, simulation of a
    basis state = column of Uref.
  * unitarity (M·M† = I, with any semiring homomorphism `c` as conjugation): `embed_preserves_unitary`,
    `product_preserves_unitary`, `uref_unitary` hold for EVERY n; `compile_unitary_upto5` (every emitted
    matrix and their product are unitary) inherits the bound n ≤ 5 only from the certificate.  Over ℂ
    (Mathlib's complex numbers) every gate of the supported set is exactly unitary
    (`gate_set_unitary`, parametric gates from cos² + sin² = 1), hence
    `compile_unitary_complex_upto5`.
-/
import BMV.Proofs.Quantum
import BMV.Proofs.QuantumUnitary
import BMV.Proofs.QuantumGates
namespace BMV.Props.C14
open BMV.Quantum MulOps Ops

/-! ### the certificate: every layer shape on n qubits, n = 1..5 (kernel-checked enumeration)

`checkLayer` is the per-layer condition that `layer_of_check` consumes. Its conjuncts about basis
indices hold for every plan (`plan_tracks`), those about identity qubits follow from the others
(`slots_cover`); what depends on the control flow of `plan` — every gate factor on its arguments,
every line with one factor — is `checkShape`, and `checkAll_eq` states the certificate as its
evaluation on every shape. -/

theorem certificate_1 : checkAll 1 = true := by rw [checkAll_eq]; decide +kernel
theorem certificate_2 : checkAll 2 = true := by rw [checkAll_eq]; decide +kernel
theorem certificate_3 : checkAll 3 = true := by rw [checkAll_eq]; decide +kernel
theorem certificate_4 : checkAll 4 = true := by rw [checkAll_eq]; decide +kernel
theorem certificate_5 : checkAll 5 = true := by rw [checkAll_eq]; decide +kernel

/-- the enumeration is not small: 1786 ordered layer shapes on 5 qubits -/
example : (allLayers 5).length = 1786 ∧ (allLayers 4).length = 221 := by decide +kernel

theorem certificate_upto5 (n : Nat) (h1 : 1 ≤ n) (h5 : n ≤ 5) (L : List (List Nat))
    (hL : ValidLayer n L) : checkLayer n L = true := by
  have hm := validLayer_mem_allLayers n L hL
  have hall : checkAll n = true := by
    have : n = 1 ∨ n = 2 ∨ n = 3 ∨ n = 4 ∨ n = 5 := by omega
    rcases this with h | h | h | h | h <;> subst h
    · exact certificate_1
    · exact certificate_2
    · exact certificate_3
    · exact certificate_4
    · exact certificate_5
  exact (List.all_eq_true.mp hall) L hm

/-- **layer = reference** (repaired model): for 1 ≤ n ≤ 5, every layer of gates of arity 1 or 2 on
    pairwise disjoint declared qubits — any placement, any argument order, any order of the lines —
    and EVERY choice of gate matrices over every lawful commutative semiring: the matrix built by the
    model of `BmMatrixFromOperation` exists, is 2^n × 2^n and has the entries of `layerRef`. -/
theorem layer_eq_layerRef_upto5 {R : Type} [Ops R] [Lawful R] (n : Nat) (h1 : 1 ≤ n) (h5 : n ≤ 5)
    (gs : List (Gate R)) (hv : ValidLayer n (gs.map (·.args))) :
    ∃ M, layer false n gs = some M ∧ M.dim = 2 ^ n ∧
      ∀ i j, i < 2 ^ n → j < 2 ^ n → M.e i j = layerRef n gs i j :=
  layer_of_check n gs (certificate_upto5 n h1 h5 _ hv)

/-- non-vacuity: a concrete non-trivial layer (non-adjacent reversed cx-like gate, a second 2-qubit
    gate whose qubits were moved by the first, one 1-qubit gate) satisfies the hypotheses -/
example : ValidLayer 5 [[4, 1], [0, 3], [2]] :=
  ⟨by decide, by decide, by decide⟩

/-- **the code as pinned is wrong** (model of the unrepaired `BmMatrixFromOperation`, symbolic gates
    g0 on (q0,q2), g1 on (q1,q3), 4 qubits): at entry (8,10) = (|1000⟩,|1010⟩) the emitted matrix holds
    g0[2][2]·g1[0][2] (that is g0 applied to (q0,q1) and g1 to (q2,q3)) while the circuit's matrix
    holds g0[2][3]·g1[0][0]; the two monomials differ. -/
theorem pinned_code_counterexample :
    ∃ M, layer true 4 (symGates [[0, 2], [1, 3]]) = some M ∧
      M.e 8 10 = some [(0, 2, 2), (1, 0, 2)] ∧
      layerRef 4 (symGates [[0, 2], [1, 3]]) 8 10 = some [(0, 2, 3), (1, 0, 0)] ∧
      symEq (M.e 8 10) (layerRef 4 (symGates [[0, 2], [1, 3]]) 8 10) = false := by
  refine ⟨_, rfl, ?_, ?_, ?_⟩ <;> decide +kernel

/-- `layerRef` is the ordered product of the gates' embeddings, for EVERY n (no bound): the finite sum
    of a matrix product has exactly one non-zero term because the gates act on disjoint qubits. -/
theorem layerRef_eq_embed_product {R : Type} [Ops R] [Lawful R] (n : Nat) (gs : List (Gate R))
    (hv : ValidLayer n (gs.map (·.args))) :
    EqOn (2 ^ n) (Uref n gs) (layerRef n gs) :=
  (embedChain n idMat gs hv).trans (mmul_id_right _ _)

/-- **`layer_eq_embed_upto5`**: a layer of gates on disjoint qubits compiles to the product of the
    embeddings of its gates (`Uref` of the layer = `embed g_k · … · embed g_1`). -/
theorem layer_eq_embed_upto5 {R : Type} [Ops R] [Lawful R] (n : Nat) (h1 : 1 ≤ n) (h5 : n ≤ 5)
    (gs : List (Gate R)) (hv : ValidLayer n (gs.map (·.args))) :
    ∃ M, layer false n gs = some M ∧ M.dim = 2 ^ n ∧ EqOn (2 ^ n) M.e (Uref n gs) := by
  obtain ⟨M, hM, hd, he⟩ := layer_eq_layerRef_upto5 n h1 h5 gs hv
  exact ⟨M, hM, hd, EqOn.trans he (layerRef_eq_embed_product n gs hv).symm⟩

/-- the general-n statement that is NOT proved (the certificate is an enumeration up to 5 qubits) -/
def layer_eq_embed_full : Prop :=
  ∀ (R : Type) [Ops R] [Lawful R] (n : Nat) (gs : List (Gate R)), 1 ≤ n → ValidLayer n (gs.map (·.args)) →
    ∃ M, layer false n gs = some M ∧ M.dim = 2 ^ n ∧ EqOn (2 ^ n) M.e (Uref n gs)

/-- the greedy split of `QasmToBmMatrices` only regroups: layers are valid and concatenate to the circuit -/
theorem compile_layers_partition {R : Type} [Ops R] [Lawful R] (n : Nat) (c : List (Gate R))
    (hok : ∀ g ∈ c, OkGate n g) :
    (∀ l ∈ compileLayers c, ValidLayer n (l.map (·.args))) ∧ (compileLayers c).flatten = c := by
  have := splitLayers_spec n c [] [] hok ⟨by simp, by simp, by simp⟩ (by simp)
  simpa [compileLayers] using this

/-- **`compile_prod`** (n ≤ 5): for every circuit over gates of arity 1 or 2 with distinct declared
    qubit arguments, the compiler emits matrices (one per layer, all 2^n × 2^n) whose product
    `M_last · … · M_0` is the circuit's unitary `Uref` = `embed g_last · … · embed g_1`. -/
theorem compile_prod_upto5 {R : Type} [Ops R] [Lawful R] (n : Nat) (h1 : 1 ≤ n) (h5 : n ≤ 5)
    (c : List (Gate R)) (hok : ∀ g ∈ c, OkGate n g) :
    ∃ Ms, compile false n c = some Ms ∧ (∀ M ∈ Ms, M.dim = 2 ^ n) ∧
      EqOn (2 ^ n) (prodMats (2 ^ n) (Ms.map (·.e))) (Uref n c) := by
  obtain ⟨hvalid, hflat⟩ := compile_layers_partition n c hok
  obtain ⟨Ms, hMs, hdims, hprod⟩ :=
    compileMats_prod n (fun gs hv => layer_eq_layerRef_upto5 n h1 h5 gs hv) (compileLayers c) hvalid
  refine ⟨Ms, hMs, hdims, ?_⟩
  have := hprod idMat idMat (EqOn.refl _ _)
  rw [hflat] at this
  exact this

/-- **`sim_column`** (n ≤ 5): the software simulation (matrices applied first to last to the state
    vector) of basis state `k` returns column `k` of the circuit's unitary. -/
theorem sim_column_upto5 {R : Type} [Ops R] [Lawful R] (n : Nat) (h1 : 1 ≤ n) (h5 : n ≤ 5)
    (c : List (Gate R)) (hok : ∀ g ∈ c, OkGate n g) :
    ∃ Ms, compile false n c = some Ms ∧
      ∀ k i, k < 2 ^ n → i < 2 ^ n → simulate (2 ^ n) (Ms.map (·.e)) (basis k) i = Uref n c i k := by
  obtain ⟨Ms, hMs, _, hprod⟩ := compile_prod_upto5 n h1 h5 c hok
  refine ⟨Ms, hMs, ?_⟩
  intro k i hk hi
  rw [simulate_eq _ _ _ i hi, mulVec_basis _ _ k hk]
  exact hprod i k hi hk

/-- simulation of any state = multiplication by the product of the matrices (no bound on n) -/
theorem sim_is_product {R : Type} [Ops R] [Lawful R] (N : Nat) (ms : List (Mat R)) (v : Nat → R) :
    ∀ i, i < N → simulate N ms v i = mulVec N (prodMats N ms) v i :=
  simulate_eq N ms v

/-- the natural numbers as a carrier, for the two examples below -/
instance : Ops Nat := { zero := 0, one := 1, mul := Nat.mul, add := Nat.add }
instance : Lawful Nat where
  add_assoc := Nat.add_assoc
  add_comm := Nat.add_comm
  zero_add := Nat.zero_add
  mul_assoc := Nat.mul_assoc
  mul_comm := Nat.mul_comm
  one_mul := Nat.one_mul
  zero_mul := Nat.zero_mul
  left_distrib := Nat.left_distrib

/-- non-vacuity of the circuit hypotheses: a 3-gate circuit on 4 qubits with a reused qubit
    (so two layers), over the natural numbers -/
example : ∀ g ∈ ([⟨fun r c => r + 2 * c + 1, [2, 0]⟩, ⟨fun r c => 3 * r + c, [1, 3]⟩,
    ⟨fun r c => r * c + 1, [0]⟩] : List (Gate Nat)), OkGate 4 g := by
  intro g hg
  simp only [List.mem_cons, List.not_mem_nil, or_false] at hg
  rcases hg with h | h | h <;> subst h <;> exact ⟨by decide, by decide, by decide⟩

example : (compileLayers ([⟨fun r c => r + 2 * c + 1, [2, 0]⟩, ⟨fun r c => 3 * r + c, [1, 3]⟩,
    ⟨fun r c => r * c + 1, [0]⟩] : List (Gate Nat))).map (·.map (·.args)) = [[[2, 0], [1, 3]], [[0]]] := by
  decide

/-! ### unitarity: M · M† = I on the range, `c` any semiring homomorphism (complex conjugation) -/

/-- embedding a unitary gate on distinct declared qubits gives a unitary matrix — EVERY n, every arity -/
theorem embed_preserves_unitary {R : Type} [Ops R] [Lawful R] {c : R → R} (hc : ConjHom c) (n : Nat)
    (g : Gate R) (hlt : ∀ x ∈ g.args, x < n) (hnd : g.args.Nodup)
    (hu : IsUnitary (2 ^ g.args.length) c g.m) : IsUnitary (2 ^ n) c (embed n g) :=
  embed_unitary hc n g hlt hnd hu

/-- products of unitary matrices are unitary; so is the identity; unitarity only looks at the range -/
theorem product_preserves_unitary {R : Type} [Ops R] [Lawful R] {c : R → R} (hc : ConjHom c) (N : Nat)
    {A B : Mat R} (hA : IsUnitary N c A) (hB : IsUnitary N c B) :
    IsUnitary N c (mmul N A B) ∧ IsUnitary N c (idMat : Mat R) :=
  ⟨isUnitary_mmul hc N hA hB, isUnitary_id hc N⟩

/-- the circuit's unitary `Uref` is unitary — EVERY n -/
theorem uref_unitary {R : Type} [Ops R] [Lawful R] {c : R → R} (hc : ConjHom c) (n : Nat)
    (gs : List (Gate R)) (hg : ∀ g ∈ gs, UnitaryGate n c g) : IsUnitary (2 ^ n) c (Uref n gs) :=
  isUnitary_Uref hc n gs (fun g h => ⟨(hg g h).1.2.1, (hg g h).1.2.2, (hg g h).2⟩)

/-- **`compile_unitary_upto5`**: for 1 ≤ n ≤ 5 and every circuit of unitary gates (arity 1 or 2, distinct
    declared qubits), every matrix the compiler emits is unitary, and so is their product.
    Only the certificate behind `layer_eq_embed_upto5` is bounded. -/
theorem compile_unitary_upto5 {R : Type} [Ops R] [Lawful R] {c : R → R} (hc : ConjHom c) (n : Nat)
    (h1 : 1 ≤ n) (h5 : n ≤ 5) (circ : List (Gate R)) (hg : ∀ g ∈ circ, UnitaryGate n c g) :
    ∃ Ms, compile false n circ = some Ms ∧ (∀ M ∈ Ms, M.dim = 2 ^ n ∧ IsUnitary (2 ^ n) c M.e) ∧
      IsUnitary (2 ^ n) c (prodMats (2 ^ n) (Ms.map (·.e))) := by
  have hok : ∀ g ∈ circ, OkGate n g := fun g h => (hg g h).1
  obtain ⟨Ms, hMs, hdims, _⟩ := compile_prod_upto5 n h1 h5 circ hok
  obtain ⟨hvalid, hflat⟩ := compile_layers_partition n circ hok
  have hall : ∀ M ∈ Ms, IsUnitary (2 ^ n) c M.e := by
    intro M hM
    obtain ⟨l, hl, hlayer⟩ := compileMats_mem n (compileLayers circ) Ms hMs M hM
    obtain ⟨M', hM', _, heq⟩ := layer_eq_embed_upto5 n h1 h5 l (hvalid l hl)
    rw [hlayer] at hM'
    cases hM'
    refine isUnitary_congr _ heq (uref_unitary hc n l ?_)
    intro g hgl
    apply hg
    rw [← hflat]
    exact List.mem_flatten.mpr ⟨l, hl, hgl⟩
  refine ⟨Ms, hMs, fun M hM => ⟨hdims M hM, hall M hM⟩, ?_⟩
  apply prodMats_unitary hc
  intro m hm
  obtain ⟨M, hM, rfl⟩ := List.mem_map.mp hm
  exact hall M hM

/-- **every gate of the supported set {h,x,y,z,s,t,sx,p,rx,ry,rz,r,cx,cz,swap,iswap,dcnot} is exactly
    unitary over ℂ**, for every angle (`Kind.mat`: the textbook closed forms; in the bmqsim dialect
    `p` = S and `r θ` = phase shift; rx/ry/rz/r/t from cos² + sin² = 1, h from (1/√2)²·2 = 1) -/
theorem gate_set_unitary (k : Kind) : IsUnitary (2 ^ k.arity) (starRingEnd ℂ) k.mat :=
  kind_unitary k

/-- **`compile_unitary_complex_upto5`**: over ℂ, for 1 ≤ n ≤ 5, every circuit over the supported gate
    set with distinct declared qubit arguments (adjacent or not, either order): every emitted matrix
    is unitary and their product — which is `Uref` by `compile_prod_upto5` — is unitary. -/
theorem compile_unitary_complex_upto5 (n : Nat) (h1 : 1 ≤ n) (h5 : n ≤ 5)
    (circ : List (Kind × List Nat))
    (hok : ∀ ka ∈ circ, ka.2.length = ka.1.arity ∧ (∀ x ∈ ka.2, x < n) ∧ ka.2.Nodup) :
    ∃ Ms, compile false n (circ.map fun ka => ka.1.gate ka.2) = some Ms ∧
      (∀ M ∈ Ms, M.dim = 2 ^ n ∧ IsUnitary (2 ^ n) (starRingEnd ℂ) M.e) ∧
      IsUnitary (2 ^ n) (starRingEnd ℂ) (prodMats (2 ^ n) (Ms.map (·.e))) := by
  apply compile_unitary_upto5 conjHomComplex n h1 h5
  intro g hg
  obtain ⟨ka, hka, rfl⟩ := List.mem_map.mp hg
  obtain ⟨hlen, hlt, hnd⟩ := hok ka hka
  refine ⟨⟨?_, hlt, hnd⟩, ?_⟩
  · show ka.2.length = 1 ∨ ka.2.length = 2
    rw [hlen]
    cases ka.1 <;> simp [Kind.arity]
  · show IsUnitary (2 ^ ka.2.length) _ ka.1.mat
    rw [hlen]
    exact kind_unitary ka.1

/-- non-vacuity: a concrete circuit over ℂ (reversed non-adjacent cx, two 2-qubit gates in one layer,
    parametric gates) meets the hypotheses of `compile_unitary_complex_upto5` -/
example : ∀ ka ∈ ([(Kind.h, [0]), (Kind.cx, [3, 0]), (Kind.iswap, [1, 2]), (Kind.rz 0.7, [2]),
      (Kind.rx 1.1, [3])] : List (Kind × List Nat)),
    ka.2.length = ka.1.arity ∧ (∀ x ∈ ka.2, x < 4) ∧ ka.2.Nodup := by
  intro ka h
  simp only [List.mem_cons, List.not_mem_nil, or_false] at h
  rcases h with h | h | h | h | h <;> subst h <;> exact ⟨rfl, by decide, by decide⟩

end BMV.Props.C14
