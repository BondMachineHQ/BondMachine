/-
  C02 — A whole BondMachine behaves the same in generated HDL as in simulation.

  Property theorems only.  Models (hand written, tied to the code on every run by
  tools/props/c02.py): BMV/Bond.lean (`wire`: what Write_verilog_main emits — compared, names
  included, with the parsed bondmachine.v), BMV/Bm.lean (`isaStep`: bondmachine.VM.Step — compared
  tick by tick with the real VM; `rtlCycle`: the processors' Rtl.cycle composed through the bonds —
  compared clock by clock with the emitted file set under BMV.Vlog), BMV/Kpn.lean (the abstract
  blocking-IO network).  Helper lemmas: BMV/Proofs/Bond.lean and BondDecl.lean (the netlist),
  BMV/Proofs/Kpn.lean (confluence), BMV/Proofs/Bm.lean (the hazard flag, the reference network),
  BMV/Proofs/BmIsa.lean (`VM.Step` seen from one processor), BMV/Proofs/BmIsaBond.lean and
  BmRtlBond.lean (one bond of a tick / clock as one step of C04's model, BMV/Proofs/Hs.lean);
  `demo_wf` uses C10's `wf_run`.

  Proved here, for EVERY well-formed machine (`Topology.WF`, which C10 proves of every machine the
  editing API can build):
    * `netlist_exact`, `connected_iff_bond`, `received_is_conjunction` — the emitted top level
      connects exactly the endpoints named by the bonds, nothing else is assigned, and an
      internal output's `_received` is the conjunction of the `_received` lines of the inputs
      bonded to it (one consumer: that line; none: no assignment at all — the wire is undriven,
      0 in the two-state semantics, as the simulator's `false`);
    * `data_nets_declared` — every data net the top level mentions is declared register-size wide;
    * `recv_fold_eq_all`, `recv_fold_order_independent` — the running `&&` of `VM.Step` is
      `List.all` over the consumers and does not depend on the order of `Links`;
    * `rtl_reads_through_wire` — the hardware composition `Bm.rtlCycle` feeds every processor
      input from the net the emitted netlist attaches to it;
    * `kahn_determinate`, `bond_channel_determinate` — schedule (= stall pattern) independence of
      networks of deterministic agents whose steps commute, instantiated with the blocking-IO
      producer / one-place channel with fan-out / consumers network.
    * `isa_step_is_product`, `isa_bond_projects`, `isa_bond_run_projects`, `isa_bond_invariant`,
      `rtl_bond_projects`, `rtl_bond_run_projects` — one tick of `Bm.isaStep` / one clock of
      `Bm.rtlCycle`, seen through any processor-to-processor bond, IS one step of C04's handshake
      model `Hs.Isa` / `Hs.Rtl` under the schedule read off the pcs; every run projects onto a run of
      that model and inherits its invariant (control level: valid / recv / deferred / waitsm / pcs);
    * `port_reuse_safe_always` — with the repaired handshake neither world ever meets the C04
      signature, so the hypothesis `PortReuseSafe` of the stream statement is void.
    * `ref_determinate` — the reference (blocking-IO network) semantics `Bm.refNet` of EVERY machine
      is confluent, hence timing independent; `stream_eq_partial` — the delivered streams of
      `Bm.runIsa` and `Bm.runRtl` are prefix-comparable on every external output PROVIDED each
      world refines that network (named hypotheses `IsaRefines`, `RtlRefines`).
  NOT proved (kept visible as `stream_eq_full : Prop`, and `IsaRefines` / `RtlRefines`): that the two
  concrete worlds do refine the network.  Missing between the proved bond projections and the
  refinements: the ghost value log on a bond (C04's model numbers the values), the environment's own
  ports (zero-latency agents, not `Hs` agents), and the composition of the per-bond runs into one
  schedule of the network (docs/C02.md).  The statement and both refinement
  hypotheses are tested on every run: simulator vs hardware on the implementation and on the
  models, and both against a round-robin run of the reference network.
-/
import BMV.Proofs.Bond
import BMV.Proofs.BondDecl
import BMV.Proofs.Kpn
import BMV.Proofs.Bm
import BMV.Proofs.BmRtlBond
import BMV.Props.C10
namespace BMV.Props.C02
open BMV BMV.Topology BMV.Bond BMV.Bm

/-! ### the netlist -/

/-- **The model of `Write_verilog_main` connects exactly the bonds** (all six clauses of
    `Bond.Exact`: one instance per processor; every driver on its own nets; every sink reports on
    its own `_received` net; every sink reads data and valid from its driver and from nothing
    else — an unbonded processor input reads its own undriven net, an unbonded external output
    is not assigned; `_received` of an internal output is nothing / the consumer's line / the
    conjunction of the consumers' lines; there is no other continuous assignment). -/
theorem netlist_exact (t : Topo) (h : WF t) (rsize : Nat) : Exact (wire t rsize) t :=
  exact_wire h rsize

/-- the (driver, sink) pairs whose data (k = 0) and valid (k = 1) lines the netlist connects are
    exactly `Topology.bonds t` -/
theorem connected_iff_bond (t : Topo) (h : WF t) (rsize : Nat) (o s : Topology.Bond)
    (ho : o ∈ t.iout) (hs : s ∈ t.iin) (k : Nat) (hk : k < 2) :
    (wire t rsize).sinkSrc s k = some (lineNet k o) ↔ (o, s) ∈ bonds t := by
  rw [(exact_wire h rsize).sinkSrc s hs k hk, ← driverOf_iff_bond h hs]
  unfold srcSpec
  have hinj : ∀ a b : Topology.Bond, lineNet k a = lineNet k b → a = b := by
    intro a b hab
    have hk' : k = 0 ∨ k = 1 := by omega
    rcases hk' with rfl | rfl <;> simpa [lineNet] using hab
  cases hd : Bond.driverOf t s with
  | some o' =>
    simp only [Option.some.injEq]
    exact ⟨fun hh => by rw [hinj _ _ hh], fun hh => by rw [hh]⟩
  | none =>
    constructor
    · intro hh
      exfalso
      by_cases h2 : s.kind = 2
      · rw [if_pos h2] at hh
        have := hinj _ _ (Option.some.inj hh)
        rw [this] at hs
        exact iin_iout_disjoint h hs ho
      · rw [if_neg h2] at hh; cases hh
    · intro hh; cases hh

/-- `received(o) = ⋀ received(i)` over the links `i ↦ o`; with no link the line is undriven (0) -/
theorem received_is_conjunction (t : Topo) (h : WF t) (rsize : Nat) (j : Nat) (o : Topology.Bond)
    (ho : t.iout[j]? = some o) (env : Net → Bool) :
    (wire t rsize).assigned env (.recv o) =
        (!(consumers t j).isEmpty && (consumers t j).all (fun c => env (.recv c))) ∧
    ∀ s, s ∈ consumers t j ↔ (o, s) ∈ bonds t :=
  ⟨recv_value (exact_wire h rsize) env ho, fun _ => mem_consumers h ho⟩

/-- declarations: every data net that an instance port or an `assign` of the emitted top level
    mentions is declared with the machine's register size — none is an implicit 1-bit net (the
    `_valid` / `_received` lines of an unbonded processor input are, legally: they are scalar) -/
theorem data_nets_declared (t : Topo) (h : WF t) (rsize : Nat) :
    (∀ i ∈ (wire t rsize).insts, ∀ b, Net.data b ∈ i.conns → DataDeclared (wire t rsize) rsize b) ∧
    (∀ a ∈ (wire t rsize).assigns, (∀ b, a.1 = .data b → DataDeclared (wire t rsize) rsize b) ∧
      (∀ b, a.2 = .id (.data b) → DataDeclared (wire t rsize) rsize b)) :=
  data_nets_declared' h rsize

/-! ### the simulator's conjunction -/

/-- the Go loop (first hit stores, later hits `&&`, no entry gives `false`) computes the
    conjunction over all slots of `Links` that point at `j` — `false` when there is none -/
theorem recv_fold_eq_all (links : List (Option Nat)) (iiRecv : List Bool) (j : Nat) :
    recvOf links iiRecv j =
      (!(consumerSlots links j).isEmpty && (consumerSlots links j).all (fun i => iiRecv.getD i false)) :=
  recvOf_eq links iiRecv j

/-- … whatever the order in which the links are visited -/
theorem recv_fold_order_independent (ps qs : List (Option Nat × Bool)) (h : ps.Perm qs) (j : Nat) :
    ((recvFold ps []).lookup j).getD false = ((recvFold qs []).lookup j).getD false := by
  rw [recvFold_closed, recvFold_closed, all_perm (recvsOf_perm h j), isEmpty_perm (recvsOf_perm h j)]

/-! ### the hardware composition goes through the emitted netlist -/

theorem rtl_reads_through_wire (t : Topo) (h : WF t) (rsize : Nat) (hs : HwState) (e : EnvIn)
    (p : Nat) (a : Arch) (k : Nat) (hk : k < a.n) (hmem : (⟨2, p, k⟩ : Topology.Bond) ∈ t.iin) :
    (portsIn t hs e p a).inputs[k]? = some
      (match (wire t rsize).sinkSrc ⟨2, p, k⟩ 0 with
       | some (.data o) => if o ∈ t.iout then hwData hs e o else 0
       | _ => 0) :=
  portsIn_src h rsize hs e p a k hk hmem

/-! ### timing independence of blocking-IO networks -/

/-- agents = deterministic partial step functions on a global state; if the steps of distinct
    agents commute (and do not disable each other), then for ANY two schedules — i.e. any two
    stall patterns — the history of every channel after one is a prefix of its history after the
    other, or vice versa -/
theorem kahn_determinate {ι σ κ ν : Type} [DecidableEq ι] (S : Kpn.Sys ι σ) (hd : S.Diamond)
    (hist : σ → κ → List ν) (hm : ∀ i s s', S.step i s = some s' → ∀ c, hist s c <+: hist s' c)
    (a b : List ι) (s sa sb : σ) (ha : S.run a s = some sa) (hb : S.run b s = some sb) (c : κ) :
    hist sa c <+: hist sb c ∨ hist sb c <+: hist sa c :=
  Kpn.determinate S hd hist hm a b s sa sb ha hb c

/-- the blocking-IO network of one bond — producer writing `f 0, f 1, …` into a one-place channel
    that empties when all `k` consumers have taken the value (the `received` conjunction) — is
    such a system: every consumer's received stream is the same whatever the schedule -/
theorem bond_channel_determinate (f : Nat → Nat) (k : Nat) (a b : List Kpn.Agent) (sa sb : Kpn.ChanState)
    (ha : (Kpn.chanSys f).run a (Kpn.chanInit k) = some sa) (hb : (Kpn.chanSys f).run b (Kpn.chanInit k) = some sb)
    (c : Nat) : sa.got.getD c [] <+: sb.got.getD c [] ∨ sb.got.getD c [] <+: sa.got.getD c [] :=
  Kpn.determinate (Kpn.chanSys f) (Kpn.chan_diamond f) (fun s c => s.got.getD c []) (Kpn.chan_mono f) a b _ sa sb ha hb c

/-! ### the statement about the two concrete worlds (not proved; tested on every run) -/

def prefixComparable (a b : List (List Nat)) : Prop :=
  a.length = b.length ∧ ∀ k, (a.getD k []) <+: (b.getD k []) ∨ (b.getD k []) <+: (a.getD k [])

/-- hypothesis: along both runs no processor starts a handshake instruction on a port whose
    previous 4-phase cycle is not over (the C04 signature, `Bm.isaHazard` / `Bm.rtlHazard`) -/
def PortReuseSafe (m : Machine) (spec : EnvSpec) : Prop :=
  (∀ n r, runIsa m spec n (Bm.init m, envInit spec m.topo.inputs m.topo.outputs, false) = some r → r.2.2 = false) ∧
  (∀ n, (runRtl m spec n (hwInit m, envInit spec m.topo.inputs m.topo.outputs, false)).2.2 = false)

/-- With the repaired handshake (/repo fix 18c0f8e; the models BMV.Isa / BMV.Rtl follow it) the
    hypothesis is void: an `i2rw` that finds its recv still up, an `r2owa` that finds a stale recv
    or its valid still up, waits.  Holds for EVERY machine, program, environment and horizon.
    (Against the pinned protocol this theorem is false — the check then reports it as broken.) -/
theorem port_reuse_safe_always (m : Machine) (spec : EnvSpec) : PortReuseSafe m spec :=
  ⟨fun n r h => by simpa using runIsa_flag m spec n _ r h, fun n => by simpa using runRtl_flag m spec n _⟩

/-- **C02, full statement**: for every machine, every environment (value streams and stall
    patterns), every pair of horizons: per external output the stream delivered by the simulator
    world and the stream delivered by the hardware world are prefix-comparable. -/
def stream_eq_full : Prop :=
  ∀ (m : Machine) (spec : EnvSpec), MachineOk m → PortReuseSafe m spec →
    ∀ (n k : Nat) (r : BmState × EnvSt × Bool),
      runIsa m spec n (Bm.init m, envInit spec m.topo.inputs m.topo.outputs, false) = some r →
      prefixComparable (envStreams r.2.1)
        (envStreams (runRtl m spec k (hwInit m, envInit spec m.topo.inputs m.topo.outputs, false)).2.1)

/-! ### the proof structure of the full statement: both worlds refine one confluent network

  `Bm.refNet m spec` is the machine as a blocking-IO process network (processors, external inputs
  as writers of their value streams, external outputs as readers; channels = internal outputs,
  reader slots = internal inputs; `i2rw` = blocking read, `r2owa` = blocking write, everything else
  = `Isa.exec`).  It has no timing: a stall pattern is a schedule. -/

/-- the reference semantics of EVERY machine (no well-formedness needed) is timing independent:
    whatever two schedules do, what each reader slot has received after one is a prefix of what it
    has received after the other -/
theorem ref_determinate (m : Machine) (spec : EnvSpec) (a b : List RefAgent) (σa σb : Kpn.NState RefAgent RefLoc)
    (ha : (refNet m spec).sys.run a (refInit m) = some σa) (hb : (refNet m spec).sys.run b (refInit m) = some σb)
    (s : Nat) : σa.got s <+: σb.got s ∨ σb.got s <+: σa.got s :=
  Kpn.determinate (refNet m spec).sys (Kpn.chanNet_diamond _ (refNet_owned m spec)) (fun σ s => σ.got s)
    (Kpn.chanNet_mono _) a b _ σa σb ha hb s

/-- named hypothesis: every finite run of the simulator world delivers what some schedule of the
    reference network delivers -/
def IsaRefines (m : Machine) (spec : EnvSpec) : Prop :=
  ∀ n r, runIsa m spec n (Bm.init m, envInit spec m.topo.inputs m.topo.outputs, false) = some r →
    ∃ sched σ, (refNet m spec).sys.run sched (refInit m) = some σ ∧ refStreams m.topo σ = envStreams r.2.1

/-- named hypothesis: the same for the hardware world -/
def RtlRefines (m : Machine) (spec : EnvSpec) : Prop :=
  ∀ k, ∃ sched σ, (refNet m spec).sys.run sched (refInit m) = some σ ∧
    refStreams m.topo σ = envStreams (runRtl m spec k (hwInit m, envInit spec m.topo.inputs m.topo.outputs, false)).2.1

theorem refStreams_comparable (m : Machine) (spec : EnvSpec) (a b : List RefAgent) (σa σb : Kpn.NState RefAgent RefLoc)
    (ha : (refNet m spec).sys.run a (refInit m) = some σa) (hb : (refNet m spec).sys.run b (refInit m) = some σb) :
    prefixComparable (refStreams m.topo σa) (refStreams m.topo σb) := by
  refine ⟨by simp [refStreams], fun k => ?_⟩
  unfold refStreams
  by_cases hk : k < m.topo.outputs
  · simp only [List.getD_eq_getElem?_getD, List.getElem?_map, List.getElem?_range hk, Option.map_some, Option.getD_some]
    cases slotOf m.topo ⟨1, k, 0⟩ with
    | none => exact Or.inl (List.prefix_refl _)
    | some s => exact ref_determinate m spec a b σa σb ha hb s
  · have hlen : ∀ l : List (List Nat), l.length = m.topo.outputs → l.getD k [] = [] := by
      intro l hl
      rw [List.getD_eq_getElem?_getD, List.getElem?_eq_none (by omega)]; rfl
    rw [hlen _ (by simp), hlen _ (by simp)]
    exact Or.inl (List.prefix_refl _)

/-- **C02, partial**: under the two named refinement hypotheses the delivered streams of the two
    worlds are prefix-comparable on every external output, for every machine, environment (value
    streams and stall patterns) and pair of horizons. -/
theorem stream_eq_partial (m : Machine) (spec : EnvSpec) (hI : IsaRefines m spec) (hR : RtlRefines m spec)
    (n k : Nat) (r : BmState × EnvSt × Bool)
    (hr : runIsa m spec n (Bm.init m, envInit spec m.topo.inputs m.topo.outputs, false) = some r) :
    prefixComparable (envStreams r.2.1)
      (envStreams (runRtl m spec k (hwInit m, envInit spec m.topo.inputs m.topo.outputs, false)).2.1) := by
  obtain ⟨a, σa, ha, ea⟩ := hI n r hr
  obtain ⟨b, σb, hb, eb⟩ := hR k
  rw [← ea, ← eb]
  exact refStreams_comparable m spec a b σa σb ha hb

/-- the full statement follows from the two refinements -/
theorem stream_eq_full_of_refinements
    (h : ∀ m spec, MachineOk m → IsaRefines m spec ∧ RtlRefines m spec) : stream_eq_full :=
  fun m spec hm _ n k r hr => stream_eq_partial m spec (h m spec hm).1 (h m spec hm).2 n k r hr

/-! ### both worlds, bond by bond, are C04's handshake model

  `BMV.Hs` (C04) is the valid/received protocol of ONE bond under an adversarial schedule, proved
  exactly-once and deadlock-free in both worlds.  The theorems below show that a whole machine is
  nothing else, bond by bond: one tick of `Bm.isaStep` (the model of `VM.Step`, with its twelve
  movement loops) and one clock of `Bm.rtlCycle` (the processors composed through the emitted
  netlist), looked at through one processor-to-processor bond, ARE one `Hs.Isa.step` / `Hs.Rtl.step`,
  the schedule being read off the processors' pcs (an agent "wants" the bond in the tick in which the
  instruction it executes is its `r2owa` / `i2rw` on that port; busy otherwise).  This is the
  projection that C04's harness checks dynamically on the real VM and on the emitted Verilog,
  proved for every machine, program and external stimulus. -/

/-- `VM.Step` is a synchronous product: every processor takes one `Isa.step` on its own state in
    which only the three port arrays were rewritten — input `k` shows the data/valid registers its
    bond's driver had at the end of the previous tick, output `o` the conjunction of its consumers'
    recv — and the internal arrays agree with the processors again afterwards -/
theorem isa_step_is_product (m : Machine) (hwf : WF m.topo) (s : BmState) (e : EnvIn) (s' : BmState)
    (hs : isaStep m (setEnv s e) = some s') :
    Coherent m.topo s' ∧
    ∀ (p : Nat) v, s.procs[p]? = some v → ∃ a prog v1 v', m.archs[p]? = some a ∧ m.progs[p]? = some prog ∧
      Isa.step a prog v1 = some v' ∧ s'.procs[p]? = some v' ∧ SameButPorts v v1 ∧
      (∀ k i, m.topo.iin[i]? = some ⟨2, p, k⟩ → k < v.inputs.length → k < v.inValid.length →
        v1.inputs[k]? = some ((preIi m.topo (setEnv s e)).iiRegs.getD i 0) ∧
        v1.inValid[k]? = some ((preIi m.topo (setEnv s e)).iiValid.getD i false)) ∧
      (∀ o j, m.topo.iout[j]? = some ⟨3, p, o⟩ → o < v.outRecv.length →
        v1.outRecv[o]? = some (recvOf m.topo.links (preRecvArr m.topo (setEnv s e)) j)) :=
  ⟨(isaStep_spec hwf hs).1, (isaStep_spec hwf hs).2.2⟩

/-- **simulator world**: one machine tick, seen through a processor-to-processor bond, is one step
    of C04's `Hs.Isa` under the schedule read off the pcs -/
theorem isa_bond_projects (m : Machine) (hm : MachineOk m) (j q o : Nat) (hb : ProcBond m j q o)
    (s : BmState) (e : EnvIn) (s' : BmState) (hok : StateOk m s) (hstep : isaStep m (setEnv s e) = some s')
    (hs : Hs.Isa.St) (hrel : BondRel m j q o s hs) :
    StateOk m s' ∧ BondRel m j q o s' (Hs.Isa.step hs (bondSched m j q o s)) :=
  ⟨step_ok (machineOk_wf hm) hstep hok,
   Bm.isa_bond_projects (machineOk_wf hm) hb hok.len hok.sized hok.coh hstep hrel⟩

/-- … hence every run of the closed loop machine + environment (any value streams, any stall
    pattern) projects onto a run of `Hs.Isa` from its initial state -/
theorem isa_bond_run_projects (m : Machine) (hm : MachineOk m) (j q o : Nat) (hb : ProcBond m j q o)
    (spec : EnvSpec) (n : Nat) (r : BmState × EnvSt × Bool)
    (hr : runIsa m spec n (Bm.init m, envInit spec m.topo.inputs m.topo.outputs, false) = some r) :
    ∃ schs, schs.length = n ∧
      BondRel m j q o r.1 (Hs.Isa.run (Hs.Isa.init (consumerSlots m.topo.links j).length) schs) := by
  obtain ⟨es, hl, hrun⟩ := runIsa_is_runStim m spec n _ r hr
  obtain ⟨schs, hl', _, hrel⟩ := Bm.isa_bond_run_projects (machineOk_wf hm) hb es _ r.1 _ (init_ok m) (init_rel m j q o) hrun
  exact ⟨schs, by rw [hl', hl], hrel⟩

/-- … and inherits C04's invariant, read on the machine's own registers: on every
    processor-to-processor bond, in every reachable state, a consumer's deferred `waitRecvI2rw` is
    pending exactly while its `InputsRecv` is up, and while the producer's `OutputsValid` is low the
    consumers' `InputsRecv` are all up or all down -/
theorem isa_bond_invariant (m : Machine) (hm : MachineOk m) (j q o : Nat) (hb : ProcBond m j q o)
    (es : List EnvIn) (s' : BmState) (hrun : runStim m es (Bm.init m) = some s') :
    (∀ i ∈ consumerSlots m.topo.links j,
      (slotPort m.topo i ∈ (procOf s' (slotProc m.topo i)).deferred ↔
        (procOf s' (slotProc m.topo i)).inRecv.getD (slotPort m.topo i) false = true)) ∧
    ((procOf s' q).outValid.getD o false = false →
      (∀ i ∈ consumerSlots m.topo.links j, (procOf s' (slotProc m.topo i)).inRecv.getD (slotPort m.topo i) false = true) ∨
      (∀ i ∈ consumerSlots m.topo.links j, (procOf s' (slotProc m.topo i)).inRecv.getD (slotPort m.topo i) false = false)) :=
  Bm.isa_bond_invariant (machineOk_wf hm) hb es s' hrun

/-- **hardware world**: one clock of the composition, seen through a processor-to-processor bond, is
    one step of C04's `Hs.Rtl` (machines whose only IO opcodes are the handshake ones) -/
theorem rtl_bond_projects (m : Machine) (hm : MachineOk m) (hho : HandshakeOnly m) (j q o : Nat)
    (hb : RtlProcBond m j q o) (h : HwState) (e : EnvIn) (hok : HwOk m h) (hs : Hs.Rtl.St)
    (hrel : RtlBondRel m j q o h hs) :
    HwOk m (rtlCycle m h e) ∧ RtlBondRel m j q o (rtlCycle m h e) (Hs.Rtl.step hs (rtlBondSched m j q o h)) :=
  ⟨rtlCycle_ok e hok, Bm.rtl_bond_projects (machineOk_wf hm) hho hb e hok hrel⟩

/-- … hence every run of the closed loop hardware + environment projects onto a run of `Hs.Rtl` from
    its initial state -/
theorem rtl_bond_run_projects (m : Machine) (hm : MachineOk m) (hho : HandshakeOnly m) (j q o : Nat)
    (hb : RtlProcBond m j q o) (spec : EnvSpec) (n : Nat) :
    ∃ schs, schs.length = n ∧
      RtlBondRel m j q o (runRtl m spec n (hwInit m, envInit spec m.topo.inputs m.topo.outputs, false)).1
        (Hs.Rtl.run (Hs.Rtl.init (Bond.consumers m.topo j).length) schs) := by
  obtain ⟨es, hl, hrun⟩ := runRtl_is_runHw m spec n (hwInit m, envInit spec m.topo.inputs m.topo.outputs, false)
  obtain ⟨schs, hl', _, hrel⟩ := Bm.rtl_bond_run_projects (machineOk_wf hm) hho hb es _ _ (hwInit_ok m) (hwInit_rel m j q o)
  rw [hrun]
  exact ⟨schs, by rw [hl', hl], hrel⟩

/-! ### non-vacuity -/

/-- i0 → p0i0; p0o0 → p1i0 and → o0 (one internal and one external consumer); p1o0 → o1; p1i1 unbonded -/
def demo : Topo :=
  run Topo.empty [.addInput, .addProcessor 1 1, .addProcessor 2 1, .addOutput, .addOutput,
    .addBond ⟨2, 0, 0⟩ ⟨0, 0, 0⟩, .addBond ⟨3, 0, 0⟩ ⟨2, 1, 0⟩, .addBond ⟨1, 0, 0⟩ ⟨3, 0, 0⟩, .addBond ⟨3, 1, 0⟩ ⟨1, 1, 0⟩]

theorem demo_wf : WF demo := Props.C10.wf_run _

example : sameSet (bonds demo)
    [(⟨0, 0, 0⟩, ⟨2, 0, 0⟩), (⟨3, 0, 0⟩, ⟨2, 1, 0⟩), (⟨3, 0, 0⟩, ⟨1, 0, 0⟩), (⟨3, 1, 0⟩, ⟨1, 1, 0⟩)] = true := by decide

/-- the executable form of `Exact` holds of the model netlist of the demo machine … -/
example : exactB (wire demo 8) demo = true := by decide +kernel

/-- … and fails as soon as one connection is wrong (the conjunction reduced to its first
    consumer): `Exact` is not a vacuous predicate -/
example : exactB { wire demo 8 with assigns := (wire demo 8).assigns.map fun a =>
      match a.2 with | .and1 (n :: _) => (a.1, .id n) | _ => a } demo = false := by decide +kernel

/-- the fan-out output of the demo machine has the two-consumer conjunction -/
example : (wire demo 8).assignOf (.recv ⟨3, 0, 0⟩) = some (.and1 [.recv ⟨2, 1, 0⟩, .recv ⟨1, 0, 0⟩]) := by decide

/-- the running && on a three-consumer fan-out, one consumer still low -/
example : recvOf [some 1, none, some 1, some 0, some 1] [true, true, true, true, false] 1 = false ∧
          recvOf [some 1, none, some 1, some 0, some 1] [true, false, true, false, true] 1 = true ∧
          recvOf [some 1, none, some 1, some 0, some 1] [true, true, true, true, true] 2 = false := by decide

/-- a schedule of the two-consumer bond network: both consumers get 0 then 1, in order, once -/
example : ((Kpn.chanSys id).run [.producer, .consumer 1, .consumer 0, .producer, .consumer 0, .consumer 1] (Kpn.chanInit 2)).map (·.got)
    = some [[0, 1], [0, 1]] := by decide

/-- … and a consumer cannot take the same value twice, nor the producer overwrite it -/
example : (Kpn.chanSys id).run [.producer, .consumer 0, .consumer 0] (Kpn.chanInit 2) = none ∧
          (Kpn.chanSys id).run [.producer, .consumer 0, .producer] (Kpn.chanInit 2) = none := by decide

/-! a one-processor counter (`inc r0 ; r2owa r0 o0 ; j 0`) bonded to one external output: the
    reference network, the simulator world and the hardware world, all evaluated by the kernel -/

def cntTopo : Topo := run Topo.empty [.addProcessor 0 1, .addOutput, .addBond ⟨3, 0, 0⟩ ⟨1, 0, 0⟩]
def cntArch : Arch := { rsize := 8, r := 1, n := 0, m := 1, l := 0, o := 2, ops := ["inc", "j", "r2owa"] }
def cntMachine : Machine :=
  { topo := cntTopo, archs := [cntArch], progs := [[Bits.ofString01 "0000", Bits.ofString01 "1000", Bits.ofString01 "0100"]] }
/-- the environment acknowledges after 1, 0, 2, 1, 0, 2 … stalls -/
def cntSpec : EnvSpec := { odel := [[1, 0, 2]] }

example : MachineOk cntMachine :=
  ⟨Props.C10.wf_run _, rfl, rfl, fun p a h => by
    cases p with
    | zero => simp [cntMachine] at h; subst h; rfl
    | succ p => simp [cntMachine] at h⟩

set_option maxRecDepth 8000 in
example : refStreams cntTopo (refRun cntMachine cntSpec 7) = [[1, 2]] := by decide +kernel

set_option maxRecDepth 8000 in
/-- 24 ticks of the simulator world deliver 1,2,3,4; 24 clocks of the hardware world 1,2,3 -/
example : (runIsa cntMachine cntSpec 24 (Bm.init cntMachine, envInit cntSpec 0 1, false)).map (fun r => envStreams r.2.1)
      = some [[1, 2, 3, 4]] ∧
    envStreams (runRtl cntMachine cntSpec 24 (hwInit cntMachine, envInit cntSpec 0 1, false)).2.1 = [[1, 2, 3]] := by
  decide +kernel

/-! a two-stage pipeline (counter → `i2rw r0 i0 ; j 0`) over one processor-to-processor bond: the
    hypotheses of the projection theorems hold of it, and both worlds move the counter's values
    into the consumer's register -/

def pipeTopo : Topo := run Topo.empty [.addProcessor 0 1, .addProcessor 1 0, .addBond ⟨3, 0, 0⟩ ⟨2, 1, 0⟩]
def pipeArch1 : Arch := { rsize := 8, r := 1, n := 1, m := 0, l := 0, o := 1, ops := ["i2rw", "j"] }
def pipeMachine : Machine :=
  { topo := pipeTopo, archs := [cntArch, pipeArch1],
    progs := [[Bits.ofString01 "0000", Bits.ofString01 "1000", Bits.ofString01 "0100"],
              [Bits.ofString01 "000", Bits.ofString01 "100"]] }

example : MachineOk pipeMachine :=
  ⟨Props.C10.wf_run _, rfl, rfl, fun p a h => by
    match p with
    | 0 => simp [pipeMachine] at h; subst h; rfl
    | 1 => simp [pipeMachine] at h; subst h; rfl
    | p + 2 => simp [pipeMachine] at h⟩

example : ProcBond pipeMachine 0 0 0 :=
  ⟨by decide, fun i hi => by
    have : i = 0 := by
      have h : consumerSlots pipeMachine.topo.links 0 = [0] := by decide
      rw [h] at hi; simpa using hi
    subst this
    exact ⟨1, 0, by decide⟩⟩

example : RtlProcBond pipeMachine 0 0 0 :=
  ⟨by decide, fun b hb => by
    have h : Bond.consumers pipeMachine.topo 0 = [⟨2, 1, 0⟩] := by decide
    rw [h] at hb
    simp only [List.mem_singleton] at hb
    subst hb; rfl⟩

example : HandshakeOnly pipeMachine := fun p a h => by
  match p with
  | 0 => simp [pipeMachine] at h; subst h; decide
  | 1 => simp [pipeMachine] at h; subst h; decide
  | p + 2 => simp [pipeMachine] at h

set_option maxRecDepth 8000 in
/-- after 14 ticks / clocks the consumer's r0 holds the third / second value of the counter -/
example : (runIsa pipeMachine {} 14 (Bm.init pipeMachine, envInit {} 0 0, false)).map (fun r => r.1.procs.map (·.regs))
      = some [[3, 0], [3, 0]] ∧
    (runRtl pipeMachine {} 14 (hwInit pipeMachine, envInit {} 0 0, false)).1.procs.map (·.regs) = [[3, 0], [2, 0]] := by
  decide +kernel

end BMV.Props.C02
