/-
  C12 — Compiled Go programs do what the source does; compilation always terminates.

  Property theorems only (helper lemmas: BMV/Proofs/BondgoProto.lean, BMV/Proofs/BondgoCompile.lean,
  BMV/Proofs/Bondgo.lean;
  models: BMV/BondgoProto.lean, BMV/Bondgo.lean — hand-written models of /repo/pkg/bondgo and
  /repo/cmd/bondgo, tied to the code by the correspondence checks of tools/props/c12.py).

  Statement (properties.jsonl): for every program of the Go subset the compiler accepts, the
  assembly it emits, run on the machine it requests, writes the same sequence of values to each
  output as the source under Go semantics with wrap-around at the register size; the compiler
  terminates on every input and never hangs or emits different code depending on goroutine timing.

  Claimed level: PARTIAL.
    * protocol half (termination, independence of the schedule): proved for the model, for every
      action list of the visitor and every schedule;
    * semantic half: proved for the modelled subset.  `compile_correct : compile_correct_full` covers
      expressions, `=`, `++`/`--`, `IOWrite`, `if`/`else`, conditional and endless `for`, block-local
      declarations with the compiler's cell release discipline; `compile_correct_x` (the same statement for
      `compileXP` / `goEvalX`) adds `break`, `continue`, three-clause `for`, tuple assignment, `:=` and
      `switch`.  Both hold for every program that obeys Go's scoping rule (the second: with `break` /
      `continue` inside loops or switches only, `noStray`), every register width ≥ 1, environment and fuel.  PARTIAL with respect to the property: functions with arguments, channels and
      `select` are outside the model; `je` has the meaning the compiler relies on.
-/
import BMV.Proofs.BondgoProto
import BMV.Proofs.Bondgo
namespace BMV.Props.C12
open BMV.BondgoProto

/-! ## 1. the goroutine protocol -/

/-- The unchanged notification order (answer first, notify afterwards) has a reachable deadlock:
    one register request is enough.  Witness: the request, its answer, `TR_EXIT` overtakes the
    allocator's pending notification, the monitor reports `usagedone`; now main wants to send
    `REQ_EXIT`, the allocator wants to notify, the monitor is gone. -/
theorem proto_deadlock_current :
    ∃ s, Reach (init [.req 0 1]) s ∧ deadlocked s = true := by
  exact ⟨runTrs (init [.req 0 1]) [.vReq, .aAns, .vUse, .mDone], reach_runTrs _ _, by decide⟩

/-- the same for the other request kinds of the real allocator that notify after answering
    (channel creation `(1,2)`, channel attach `(0,2)`), also when more work follows the request as
    long as it does not involve the allocator -/
theorem proto_deadlock_current_kinds :
    canDeadlock [.req 1 2] = true ∧ canDeadlock [.req 0 2] = true ∧
    canDeadlock [.use, .req 0 1, .use, .use] = true ∧
    -- … whereas a following request to the allocator synchronises with the pending notification
    canDeadlock [.req 0 1, .req 0 0] = false := by
  decide +kernel

/-- every rendezvous lowers the ranking function by exactly one — in either order of notification:
    no run of the protocol is longer than `rank (init acts)` -/
theorem proto_rank_decreases (s s' : St) (t : Tr) (h : step s t = some s') : rank s' + 1 = rank s :=
  rank_step h

/-- With notify-before-answer (`Act.fixed`: no request notifies after its answer), for every action
    list of the visitor:
    (1) no reachable state is stuck: it is final or exactly one rendezvous is enabled (so the run
        does not depend on the scheduler at all);
    (2) the rank of every reachable state is bounded by the rank of the initial one;
    (3) under every schedule the run reaches the final state within `rank (init acts)` steps. -/
theorem proto_terminates_fixed (acts : List Act) (hfix : acts.all Act.fixed = true) :
    (∀ s, Reach (init acts) s → final s = true ∨ (enabled s).length = 1) ∧
    (∀ s, Reach (init acts) s → rank s ≤ rank (init acts)) ∧
    (∀ sched : Nat → Nat, final (runSched sched (rank (init acts)) 0 (init acts)) = true) := by
  refine ⟨?_, ?_, ?_⟩
  · intro s hr
    have hi := reach_inv (inv_init acts hfix) hr
    cases hf : final s with
    | true => exact .inl rfl
    | false => exact .inr (inv_enabled hi hf)
  · intro s hr; exact reach_rank hr
  · intro sched
    exact runSched_final sched _ 0 _ (inv_init acts hfix) (Nat.le_refl _)

/-- corollary: no reachable deadlock after the fix -/
theorem proto_no_deadlock_fixed (acts : List Act) (hfix : acts.all Act.fixed = true)
    (s : St) (hr : Reach (init acts) s) : deadlocked s = false := by
  rcases (proto_terminates_fixed acts hfix).1 s hr with h | h
  · simp [deadlocked, h]
  · cases he : enabled s with
    | nil => rw [he] at h; cases h
    | cons t ts => simp [deadlocked, he]

/-- the fix (`Act.fix`: move every notification in front of the answer) puts every action list into
    the fixed form, so the theorems above apply to whatever the visitor does -/
theorem proto_fix_applies (acts : List Act) : (acts.map Act.fix).all Act.fixed = true := by
  induction acts with
  | nil => rfl
  | cons a as ih => cases a <;> simp_all [Act.fix, Act.fixed]

/-! non-vacuity: a scenario with every request kind reaches the final state, and its unfixed
    version is one of the deadlocking ones -/
example : final (runSched (fun i => i * 7 + 3) 64 0
    (init ([.use, .req 0 1, .req 1 2, .use, .req 0 2, .req 0 0, .req 0 1, .use].map Act.fix))) = true := by
  decide +kernel
example : canDeadlock [.use, .req 0 1, .req 1 2, .use, .req 0 2, .req 0 0, .req 0 1, .use] = true := by
  decide +kernel

/-! ## 2. the compiler (core subset) -/
open BMV.Bondgo

/-- `alloc_inv`, allocation: the register handed out is not in use, so live registers stay distinct -/
theorem alloc_inv_fresh (busy : List Nat) : fresh busy ∉ busy := fresh_not_mem busy

/-- `alloc_inv`, expressions: compiling an expression from a duplicate-free busy list returns a
    result register that was free before, is busy afterwards, and the busy list stays duplicate
    free and only grows by that register (every temporary has been released again) -/
theorem alloc_inv_expr (ls : List Loc) (e : Expr) (busy : List Nat) (c : List Instr) (r : Nat)
    (busy' : List Nat) (hnd : busy.Nodup) (h : compileE ls e busy = some (c, r, busy')) :
    r ∉ busy ∧ busy'.Nodup ∧ (∀ x, x ∈ busy' ↔ x = r ∨ x ∈ busy) :=
  have s := compileE_spec ls e busy c r busy' h
  ⟨s.free, s.alloc hnd⟩

/-- `alloc_inv`, use after release: the code of an expression writes only registers that were free
    when its compilation started — in particular never a register variable or a live temporary of
    an enclosing expression, and never a register released earlier and re-allocated to someone
    else in between (those are in `busy`) -/
theorem alloc_inv_writes (ls : List Loc) (e : Expr) (busy : List Nat) (c : List Instr) (r : Nat)
    (busy' : List Nat) (hnd : busy.Nodup) (h : compileE ls e busy = some (c, r, busy')) :
    ∀ i ∈ c, ∀ x ∈ i.writes, x ∉ busy :=
  (compileE_spec ls e busy c r busy' h).writes

/-- `compile_correct`, expressions (any width, any environment): running the code of `e`, placed
    anywhere in a program, from a machine state that agrees with the source state on the variables
    (`Agree`: memory variables in their cells, register variables in their registers) computes
    `evalE e` into the result register, consumes the same input reads, leaves memory, outputs and
    every busy register untouched, and falls through to the next instruction -/
theorem compile_correct_expr (env : Nat → Nat → Nat) (w : Nat) (ls : List Loc) (e : Expr)
    (busy : List Nat) (c : List Instr) (r : Nat) (busy' : List Nat)
    (h : compileE ls e busy = some (c, r, busy'))
    (pre post : List Instr) (cfg : Cfg) (s : Src)
    (hpc : cfg.pc = pre.length) (hag : Agree ls busy cfg s) :
    let res := evalE env w e s
    let cfg' := isaRun env w (pre ++ c ++ post) c.length cfg
    cfg'.pc = pre.length + c.length ∧ cfg'.regs r = res.1 ∧ cfg'.mem = cfg.mem ∧
    cfg'.outs = cfg.outs ∧ cfg'.rc = res.2.rc ∧ res.2.vars = s.vars ∧ res.2.outs = s.outs ∧
    (∀ x ∈ busy, cfg'.regs x = cfg.regs x) := by
  intro res cfg'
  have A := exprL (env := env) (w := w) (live := List.range ls.length) h (codeAt_mid pre c post) hpc
    ⟨fun x _ g hl => (hag.regv x g hl).1, fun x _ m hl => hag.memv x m hl, hag.rc⟩
    (fun x g hl => (hag.regv x g hl).2) (compileE_spec ls e busy c r busy' h).vars
  exact ⟨A.pc, A.val, A.mem, A.outs, A.rc, (evalE_frame env w e s).1, (evalE_frame env w e s).2, A.keep⟩

/-- `compile_correct`, straight-line statements (`=`, `++`, `--`, `IOWrite`, sequencing), placed
    anywhere in a program, for variables living in pairwise distinct places: the statement
    finishes, the machine falls through to the next instruction, the states agree again (with the
    new busy list) and the output lists are equal -/
theorem compile_correct_stmt_straight (env : Nat → Nat → Nat) (w fuel : Nat) (ls : List Loc)
    (hinj : LocsInj ls) (st : Stmt) (hs : straight st = true)
    (base : Nat) (busy : List Nat) (c : List Instr) (busy' : List Nat)
    (h : compileS ls st base busy = some (c, busy'))
    (pre post : List Instr) (cfg : Cfg) (s : Src)
    (hpc : cfg.pc = pre.length) (hag : Agree ls busy cfg s) (ho : cfg.outs = s.outs) :
    (exec env w fuel st s).2 = true ∧
    (isaRun env w (pre ++ c ++ post) c.length cfg).pc = pre.length + c.length ∧
    Agree ls busy' (isaRun env w (pre ++ c ++ post) c.length cfg) (exec env w fuel st s).1 ∧
    (isaRun env w (pre ++ c ++ post) c.length cfg).outs = (exec env w fuel st s).1.outs :=
  straight_correct env w fuel ls hinj st hs base busy c busy' h pre post cfg s hpc hag ho

/-- the declared variables get pairwise distinct registers / memory cells -/
theorem alloc_inv_decls (decls : List Bool) : LocsInj (locs decls) := locs_inj decls

/-- `compile_correct` for whole straight-line programs (declarations of register and memory
    variables, then assignments, `++`/`--`, `IOWrite` with `+`, `*`, `IORead` expressions): for every
    register width, every input environment and every fuel, the compiled program run from the
    reset state for exactly its own length has left the program and has written exactly the
    outputs of `goEval`, which has returned.
    (Straight-line special case with an exact step count; structured programs: see
    `compile_correct_structured` / `compile_correct_wf` below.) -/
theorem compile_correct_partial (env : Nat → Nat → Nat) (w fuel : Nat) (p : Prog) (code : List Instr)
    (hc : compile p = some code) (hs : straight p.body = true) :
    runCode env w code code.length = ((goEval env w fuel p).1, true) ∧ (goEval env w fuel p).2 = true :=
  compile_straight env w fuel p code hc hs

/-- `compile_correct_partial` implies the full statement for straight-line programs -/
theorem compile_correct_partial_full (env : Nat → Nat → Nat) (w fuel : Nat) (p : Prog) (code : List Instr)
    (hc : compile p = some code) (hs : straight p.body = true) :
    ∃ n, (runCode env w code n).1 = (goEval env w fuel p).1 ∧
         ((goEval env w fuel p).2 = true → (runCode env w code n).2 = true) := by
  refine ⟨code.length, ?_, fun _ => ?_⟩ <;> rw [(compile_correct_partial env w fuel p code hc hs).1]

/-! non-vacuity: the program `a = 3; b = a + 2; IOWrite(o, b)` is accepted,
    is straight-line, compiles to the 12 lines the real compiler prints, and the theorem gives its
    output -/
def demo : Prog :=
  { decls := [false, false],
    body := .seq (.assign 0 (.lit 3)) (.seq (.assign 1 (.add (.var 0) (.lit 2))) (.seq (.iowrite 0 (.var 1)) .skip)) }

example : compile demo = some
    [.clr 0, .r2m 0 0, .clr 0, .r2m 0 1, .rset 0 3, .r2m 0 0, .m2r 0 0, .rset 1 2, .add 0 1, .r2m 0 1,
     .m2r 0 1, .r2o 0 0] ∧ straight demo.body = true := by decide +kernel

example : (runCode (fun _ _ => 0) 8 ((compile demo).getD []) 12) = ([(0, 5)], true) := by decide +kernel

/-! block-local variables:
    in `if a == 3 { var b; var c; … } else { var d; … }` the cells of `b`, `c` are released before the
    `else` body is compiled, so `d` re-uses cell 1 — and the RAM the program needs is the maximum
    over the whole program (3 cells), not the last cell handed out -/
def demoBlocks : Prog :=
  { decls := [false],
    body := .seq (.assign 0 (.lit 3)) (.seq
      (.ifElse (.eq (.var 0) (.lit 3))
        (.seq (.decl 1) (.seq (.decl 2) (.seq (.assign 1 (.add (.var 0) (.lit 1)))
          (.seq (.assign 2 (.mul (.var 1) (.lit 2))) (.seq (.iowrite 0 (.var 2)) .skip)))))
        (.seq (.decl 3) (.seq (.assign 3 (.add (.var 0) (.lit 5))) (.seq (.iowrite 0 (.var 3)) .skip))))
      (.seq (.iowrite 0 (.var 0)) .skip)) }

example : allLocs demoBlocks = [.mem 0, .mem 1, .mem 2, .mem 1] ∧
    ((compile demoBlocks).map List.length) = some 36 ∧
    runCode (fun _ _ => 0) 8 ((compile demoBlocks).getD []) 40 = ([(0, 8), (0, 3)], true) := by decide +kernel

/-! ### structured programs: `if`/`else`, `for`, block-local variables -/

/-- The compositional simulation lemma.  For every statement form, every loop fuel and every
    placement: the code of a statement compiled at address `base` and placed at offset `base` of a
    program, started at its first instruction in a machine state that agrees with the source state
    on the variables in scope (`AgreeL`), reaches — when the source statement finishes within the
    fuel — the instruction after its last one, in a state that agrees with the source's final state
    on the variables then in scope (`live ++ topDecls st`: block-local variables leave the scope with
    their block), with equal output lists.  Hypotheses: register width ≥ 1, the statement passes the
    scoping/placement check `wfS`, the registers of register variables are busy (`VarRegsIn`), the
    variables in scope live in distinct places (`LiveInj`).  `je` has the meaning the compiler
    relies on (`execInstr`). -/
theorem stmt_simulation (env : Nat → Nat → Nat) (w : Nat) (hw : 0 < w) (ls : List Loc) (fuel : Nat) (st : Stmt)
    (live : List Nat) (base : Nat) (busy : List Nat) (c : List Instr) (busy' : List Nat)
    (hc : compileS ls st base busy = some (c, busy')) (hwf : wfS ls st live = true)
    (hvr : VarRegsIn ls busy) (hinj : LiveInj ls live)
    (pre post : List Instr) (cfg : Cfg) (s : Src) (hb : base = pre.length) (hpc : cfg.pc = pre.length)
    (hag : AgreeL ls live cfg s) (ho : cfg.outs = s.outs) (hdone : (exec env w fuel st s).2 = true) :
    ∃ cfg', Reaches env w (pre ++ c ++ post) cfg cfg' ∧ cfg'.pc = pre.length + c.length ∧
      AgreeL ls (live ++ topDecls st) cfg' (exec env w fuel st s).1 ∧
      cfg'.outs = (exec env w fuel st s).1.outs := by
  obtain ⟨cfg', r, o, h⟩ := sim_plain env w hw ls fuel st live base busy c busy' hc hwf hvr hinj pre post cfg s hb hpc hag ho
  exact ⟨cfg', r, (h hdone).1, (h hdone).2, o⟩

/-- the same when the fuel runs out inside the statement (a loop that has not finished): the
    machine reaches a state that has written exactly the outputs the source wrote so far -/
theorem stmt_simulation_timeout (env : Nat → Nat → Nat) (w : Nat) (hw : 0 < w) (ls : List Loc) (fuel : Nat) (st : Stmt)
    (live : List Nat) (base : Nat) (busy : List Nat) (c : List Instr) (busy' : List Nat)
    (hc : compileS ls st base busy = some (c, busy')) (hwf : wfS ls st live = true)
    (hvr : VarRegsIn ls busy) (hinj : LiveInj ls live)
    (pre post : List Instr) (cfg : Cfg) (s : Src) (hb : base = pre.length) (hpc : cfg.pc = pre.length)
    (hag : AgreeL ls live cfg s) (ho : cfg.outs = s.outs) (hto : (exec env w fuel st s).2 = false) :
    ∃ cfg', Reaches env w (pre ++ c ++ post) cfg cfg' ∧ cfg'.outs = (exec env w fuel st s).1.outs := by
  obtain ⟨cfg', r, o, _⟩ := sim_plain env w hw ls fuel st live base busy c busy' hc hwf hvr hinj pre post cfg s hb hpc hag ho
  exact ⟨cfg', r, o⟩

/-- `compile_correct` for structured programs, every fuel (terminating or not): for every fuel there
    is a number of instructions after which the compiled program has written exactly what `goEval`
    wrote within that fuel; when `main` returned the machine has left the program.  (Output lists
    only grow on both sides, so this identifies the two output streams prefix by prefix.) -/
theorem compile_correct_wf (env : Nat → Nat → Nat) (w : Nat) (hw : 0 < w) (fuel : Nat) (p : Prog)
    (code : List Instr) (hc : compile p = some code) (hwf : wfProg p = true) :
    ∃ n, (runCode env w code n).1 = (goEval env w fuel p).1 ∧
         ((goEval env w fuel p).2 = true → (runCode env w code n).2 = true) :=
  compile_prefix env w hw fuel p code hc hwf

/-- `compile_correct` for structured programs, termination form: if `main` returns within `fuel`
    loop iterations, the compiled program — from the reset state — reaches a state past its last
    instruction having written exactly `goEval`'s outputs. -/
theorem compile_correct_structured (env : Nat → Nat → Nat) (w : Nat) (hw : 0 < w) (fuel : Nat) (p : Prog)
    (code : List Instr) (hc : compile p = some code) (hwf : wfProg p = true)
    (hdone : (goEval env w fuel p).2 = true) :
    ∃ n, runCode env w code n = ((goEval env w fuel p).1, true) := by
  obtain ⟨n, h1, h2⟩ := compile_correct_wf env w hw fuel p code hc hwf
  exact ⟨n, Prod.ext h1 (h2 hdone)⟩

/-- allocation facts used by the simulation: registers busy before a statement stay busy (so the
    registers of register variables are never handed out), and a well-placed statement keeps the
    variables in scope in pairwise distinct places -/
theorem alloc_inv_stmt (ls : List Loc) (st : Stmt) (base : Nat) (busy : List Nat) (c : List Instr)
    (busy' : List Nat) (h : compileS ls st base busy = some (c, busy')) (live : List Nat)
    (hwf : wfS ls st live = true) (hinj : LiveInj ls live) :
    (∀ x ∈ busy, x ∈ busy') ∧ LiveInj ls (live ++ topDecls st) :=
  ⟨compileS_mono ls st base busy c busy' h, wfS_liveInj ls st live hwf hinj⟩

/-- What a machine whose `je` does nothing (procbuilder's `je` today, known finding C12-je-stub;
    modelled as the oracle does: `je` at address l replaced by `j (l+1)`) does with the tail of a
    compiled comparison: the result register is 0 whatever the operands hold, i.e. every compiled
    `==` is false and every `if` takes its else path, every conditional `for` is skipped. -/
theorem je_noop_comparison_false (env : Nat → Nat → Nat) (w : Nat) (pre post : List Instr) (rc l : Nat) (cfg : Cfg)
    (hpc : cfg.pc = pre.length) (hl : l = pre.length) :
    ∃ cfg', Reaches env w (pre ++ [Instr.j (l + 1), Instr.rset rc 0, Instr.j (l + 4), Instr.rset rc 1] ++ post) cfg cfg' ∧
      cfg'.pc = l + 4 ∧ cfg'.regs rc = 0 ∧ cfg'.mem = cfg.mem ∧ cfg'.outs = cfg.outs ∧
      (∀ x, x ≠ rc → cfg'.regs x = cfg.regs x) :=
  cond_tail_je_noop env w pre post rc l cfg hpc hl

/-! non-vacuity of the structured theorems: the block demo above and a program with a conditional
    loop pass `wfProg`, compile, and the theorems apply to them -/
def demoLoop : Prog :=
  { decls := [true, false],       -- reg_v0, v1
    body := .seq (.loop (some (.eq (.var 1) (.lit 0)))
        (.seq (.decl 2) (.seq (.assign 2 (.add (.mul (.var 0) (.lit 3)) (.lit 1))) (.seq (.assign 0 (.var 2))
          (.seq (.ifThen (.eq (.var 0) (.lit 40)) (.seq (.assign 1 (.lit 1)) .skip))
            (.seq (.iowrite 0 (.var 0)) .skip))))))
      .skip }

example : wfProg demoBlocks = true ∧ wfProg demoLoop = true ∧ scopedProg demoBlocks = true ∧
    scopedProg demoLoop = true ∧ (compile demoLoop).isSome = true := by decide +kernel

example (env : Nat → Nat → Nat) (fuel : Nat) :
    ∃ n, (runCode env 8 ((compile demoLoop).getD []) n).1 = (goEval env 8 fuel demoLoop).1 := by
  have hc : compile demoLoop = some ((compile demoLoop).getD []) := by decide +kernel
  obtain ⟨n, h, _⟩ := compile_correct_wf env 8 (by decide) fuel demoLoop _ hc (by decide)
  exact ⟨n, h⟩

/-- the machine really runs the loop of `demoLoop`: 1, 4, 13, 40 -/
example : runCode (fun _ _ => 0) 8 ((compile demoLoop).getD []) 200 = ([(0, 1), (0, 4), (0, 13), (0, 40)], true) := by
  decide +kernel

/-- The full statement of semantic preservation for the modelled subset: for every program that
    obeys Go's scoping rule (`scopedProg`: on unique variable indices, block-local variables numbered
    in textual order) and that the model compiler accepts, every register width ≥ 1, environment and
    loop fuel, the compiled program reaches — after some number of instructions — a state whose
    output list is exactly what `goEval` produced within that fuel; and when `main` returned, the
    machine has run off the end of the program.
    (Width 0 is excluded: there `rset r 1` stores 0 and the statement is false.) -/
def compile_correct_full : Prop :=
  ∀ (env : Nat → Nat → Nat) (w fuel : Nat) (p : Prog) (code : List Instr),
    0 < w → scopedProg p = true → compile p = some code →
    ∃ n, (runCode env w code n).1 = (goEval env w fuel p).1 ∧
         ((goEval env w fuel p).2 = true → (runCode env w code n).2 = true)

/-- `alloc_inv`, memory cells: soundness of the cell release discipline of `blockLocs` (the
    variables of a `then` body are released before the `else` body is compiled, those of a loop body
    before its post clause, nothing else is released): in every well-scoped program a new block-local
    variable never gets the cell of a variable that is still in scope, all reads and writes are in
    scope — i.e. the decidable check `wfProg` that the simulation needs holds for every program that
    obeys Go's scoping rule. -/
theorem alloc_inv_placement (p : Prog) (h : scopedProg p = true) : wfProg p = true :=
  placement_sound p h

/-- **`compile_correct`**: the full statement holds for the modelled subset. -/
theorem compile_correct : compile_correct_full :=
  fun env w fuel p code hw hs hc => compile_correct_wf env w hw fuel p code hc (alloc_inv_placement p hs)

/-! ### `break`, `continue`, three-clause `for` (`compileX`, `execX`) -/

/-- The simulation lemma with loop labels.  `compileX` gets the addresses of the innermost loop's
    exit (`lb`) and continue point (`lc`); `execX` says how the statement ended.  For every way of
    ending other than running out of fuel the machine reaches: the instruction after the statement
    (`ok`), the loop's exit label (`break`), its continue label (`continue`) — `exitPc` — in a state
    that agrees with the source on the variables in scope (`exitLive`: what the statement declared
    stays in scope only if it fell through), with equal outputs.  The `for` cases: a `continue` or a
    normal end of the body both arrive at the continue point (the post clause, or the back jump), a
    `break` arrives behind the back jump; the post clause is compiled with the labels of the
    enclosing loop.  Labels are computed beforehand from `codeLen`, which is the length of the code
    (`compileX_length`). -/
theorem stmt_simulation_labels (env : Nat → Nat → Nat) (w : Nat) (hw : 0 < w) (ls : List Loc) (fuel : Nat) (st : Stmt)
    (lb lc : Nat) (live : List Nat) (base : Nat) (busy : List Nat) (c : List Instr) (busy' : List Nat)
    (hc : compileX ls lb lc st base busy = some (c, busy')) (hwf : wfS ls st live = true)
    (hvr : VarRegsIn ls busy) (hinj : LiveInj ls live)
    (pre post : List Instr) (cfg : Cfg) (s : Src) (hb : base = pre.length) (hpc : cfg.pc = pre.length)
    (hag : AgreeL ls live cfg s) (ho : cfg.outs = s.outs) (hnt : (execX env w fuel st s).2 ≠ .timeout) :
    ∃ cfg', Reaches env w (pre ++ c ++ post) cfg cfg' ∧
      cfg'.pc = exitPc (execX env w fuel st s).2 (pre.length + c.length) lb lc ∧
      AgreeL ls (exitLive (execX env w fuel st s).2 live st) cfg' (execX env w fuel st s).1 ∧
      cfg'.outs = (execX env w fuel st s).1.outs :=
  (sim_all hw fuel st).okx lb lc live base busy c busy' hc hwf hvr hinj pre post cfg s hb hpc hag ho hnt

/-- … and when the fuel runs out: the outputs written so far are written by the machine -/
theorem stmt_simulation_labels_timeout (env : Nat → Nat → Nat) (w : Nat) (hw : 0 < w) (ls : List Loc) (fuel : Nat)
    (st : Stmt) (lb lc : Nat) (live : List Nat) (base : Nat) (busy : List Nat) (c : List Instr) (busy' : List Nat)
    (hc : compileX ls lb lc st base busy = some (c, busy')) (hwf : wfS ls st live = true)
    (hvr : VarRegsIn ls busy) (hinj : LiveInj ls live)
    (pre post : List Instr) (cfg : Cfg) (s : Src) (hb : base = pre.length) (hpc : cfg.pc = pre.length)
    (hag : AgreeL ls live cfg s) (ho : cfg.outs = s.outs) (hto : (execX env w fuel st s).2 = .timeout) :
    ∃ cfg', Reaches env w (pre ++ c ++ post) cfg cfg' ∧ cfg'.outs = (execX env w fuel st s).1.outs :=
  (sim_all hw fuel st).tox lb lc live base busy c busy' hc hwf hvr hinj pre post cfg s hb hpc hag ho hto

/-- the length of the code does not depend on labels or allocator state -/
theorem compileX_code_length (ls : List Loc) (st : Stmt) (lb lc base : Nat) (busy : List Nat) (c : List Instr)
    (busy' : List Nat) (h : compileX ls lb lc st base busy = some (c, busy')) : c.length = codeLen ls st :=
  compileX_length ls st lb lc base busy c busy' h

/-- the full statement for the language with `break` / `continue` / post clauses: as
    `compile_correct_full`, for `compileXP` / `goEvalX`, for programs in which `continue`
    occurs inside loops only and `break` inside loops or `switch` clauses only (`noStray`; the real
    compiler rejects the others) -/
def compile_correct_full_x : Prop :=
  ∀ (env : Nat → Nat → Nat) (w fuel : Nat) (p : Prog) (code : List Instr),
    0 < w → scopedProg p = true → noStray p.body = true → compileXP p = some code →
    ∃ n, (runCode env w code n).1 = (goEvalX env w fuel p).1 ∧
         ((goEvalX env w fuel p).2 = true → (runCode env w code n).2 = true)

/-- **`compile_correct_x`**: it holds. -/
theorem compile_correct_x : compile_correct_full_x :=
  fun env w fuel p code hw hs hns hc =>
    compileX_prefix env w hw fuel p code hc (alloc_inv_placement p hs) hns

/-! non-vacuity: a three-clause loop with `continue` (the post clause must still run) followed by an
    endless loop left by `break` -/
def demoBreak : Prog :=
  { decls := [false, false],
    body := .seq (.loopP (.eq (.var 1) (.lit 0))
        (.seq (.ifThen (.eq (.var 0) (.lit 2)) (.seq .cont .skip))
          (.seq (.iowrite 0 (.var 0)) (.seq (.ifThen (.eq (.var 0) (.lit 5)) (.seq (.assign 1 (.lit 1)) .skip)) .skip)))
        (.inc 0))
      (.seq (.loop none (.seq (.inc 0) (.seq (.ifThen (.eq (.var 0) (.lit 9)) (.seq .brk .skip)) .skip)))
        (.seq (.iowrite 0 (.lit 99)) .skip)) }

example : scopedProg demoBreak = true ∧ noStray demoBreak.body = true ∧ wfProg demoBreak = true ∧
    ((compileXP demoBreak).map List.length) = some 48 := by decide +kernel

example : runCode (fun _ _ => 0) 8 ((compileXP demoBreak).getD []) 400
    = ([(0, 0), (0, 1), (0, 3), (0, 4), (0, 5), (0, 99)], true) := by decide +kernel

example (env : Nat → Nat → Nat) (fuel : Nat) :
    ∃ n, (runCode env 8 ((compileXP demoBreak).getD []) n).1 = (goEvalX env 8 fuel demoBreak).1 := by
  have hc : compileXP demoBreak = some ((compileXP demoBreak).getD []) := by decide +kernel
  obtain ⟨n, h, _⟩ := compile_correct_x env 8 fuel demoBreak _ (by decide) (by decide) (by decide) hc
  exact ⟨n, h⟩

/-! tuple assignment (`Stmt.tassign`, part of `compileX` / `execX`, covered by `compile_correct_x`): all
    right-hand sides are evaluated left to right, each into its own temporary register that stays
    allocated; then the stores happen left to right, each temporary released after its store — the
    order the real compiler uses, and Go's semantics -/
def demoTuple : Prog :=
  { decls := [false, true, false],     -- v0, reg_v1, v2
    body := .seq (.tassign [(0, .lit 10)]) (.seq (.tassign [(1, .lit 13)])
      (.seq (.tassign [(0, .var 1), (1, .var 0)])                       -- v0, reg_v1 = reg_v1, v0
      (.seq (.iowrite 0 (.var 0)) (.seq (.iowrite 0 (.var 1))
      (.seq (.tassign [(0, .add (.var 0) (.var 1)), (1, .var 0), (2, .mul (.var 1) (.lit 2))])
      (.seq (.iowrite 0 (.var 0)) (.seq (.iowrite 0 (.var 1)) (.seq (.iowrite 0 (.var 2)) .skip)))))))) }

example : scopedProg demoTuple = true ∧ noStray demoTuple.body = true ∧
    runCode (fun _ _ => 0) 8 ((compileXP demoTuple).getD []) 100
      = ([(0, 13), (0, 10), (0, 23), (0, 13), (0, 20)], true) := by decide +kernel

/-- the simulation lemma's tuple-assignment case on its own: the code of `x1, …, xk = e1, …, ek` -/
theorem stmt_simulation_tuple (env : Nat → Nat → Nat) (w fuel : Nat) (ls : List Loc) (ps : List (Nat × Expr)) :
    StmtOKX env w ls fuel (.tassign ps) :=
  sim_tassign.okx

/-! `x1, … := e1, …` (`Stmt.define`, memory names; part of `compileX` / `execX`, covered by
    `compile_correct_x`): the right-hand sides are evaluated in the scope *before* the new variables
    (so `x := x + 1` in a nested block reads the outer `x`), then every new variable gets a fresh
    memory cell of its block (`blockLocs`, released like a `var` of that block) and is stored with
    `r2m`.  The program of the `:=` regression (commit 96ceb1e): Go writes 5, 7. -/
def demoDefine : Prog :=
  { decls := [false],
    body := .seq (.tassign [(0, .lit 7)])
      (.seq (.ifThen (.eq (.var 0) (.lit 7))
          (.seq (.define [(1, .lit 5)]) (.seq (.iowrite 0 (.var 1)) .skip)))
        (.seq (.iowrite 0 (.var 0)) .skip)) }

example : scopedProg demoDefine = true ∧ noStray demoDefine.body = true ∧
    allLocs demoDefine = [.mem 0, .mem 1] ∧
    runCode (fun _ _ => 0) 8 ((compileXP demoDefine).getD []) 100 = ([(0, 5), (0, 7)], true) := by decide +kernel

/-- the simulation lemma's `:=` case on its own -/
theorem stmt_simulation_define (env : Nat → Nat → Nat) (w fuel : Nat) (ls : List Loc) (ps : List (Nat × Expr)) :
    StmtOKX env w ls fuel (.define ps) :=
  sim_define.okx

/-! `:=` of a name the current block already declares is refused (visiter.go "Already defined variable",
    live since /repo a87efcf — also the partial re-declaration `x, y := …` that Go accepts): `compileXP`
    returns `none` for such a program (`redeclProg`), so `compile_correct_x` says nothing about it, and
    every program `compileXP` accepts is free of it. A `:=` of the same *name* in a nested block is a new
    variable (a different index) and stays accepted (`demoDefine`). -/
theorem compile_refuses_redeclare (p : Prog) (h : redeclProg p = true) : compileXP p = none := by
  unfold compileXP; rw [h]; rfl

theorem compile_accepts_no_redeclare (p : Prog) (code : List Instr) (h : compileXP p = some code) :
    redeclProg p = false ∧ compileXBody p = some code :=
  ⟨(compileXP_some h).2, (compileXP_some h).1⟩

/-- `var x uint8; x, y := 5, 6` (corpus 14), `x := 5` (corpus 16), and a re-declaration inside a loop body -/
def demoRedeclare : Prog :=
  { decls := [false], body := .seq (.define [(0, .lit 5), (1, .lit 6)]) (.seq (.iowrite 0 (.var 0)) .skip) }

example : compileXP demoRedeclare = none ∧ (compileXBody demoRedeclare).isSome = true ∧
    compileXP { decls := [false], body := .define [(0, .lit 5)] } = none ∧
    compileXP { decls := [], body := .loop none (.seq (.define [(0, .lit 1)]) (.seq (.define [(1, .lit 2), (0, .lit 3)]) .brk)) } = none ∧
    (compileXP { decls := [], body := .loop none (.seq (.define [(0, .lit 1)]) (.seq (.define [(1, .lit 2)]) .brk)) }).isSome = true := by
  decide +kernel

/-! `switch tag { case v: … default: … }` (`Stmt.switch` with the clause list `swCase … (swDefault … | skip)`;
    part of `compileX` / `execX`, covered by `compile_correct_x`). The code is what visiter.go emits, not an
    if/else chain: the tag into a temporary that stays allocated, a jump table (`rset r v; je rt r <clause>`
    per `case`, the constant's temporary released each time, then one jump to `default` or to the end), the
    clause bodies in textual order, each followed by a jump to the end. Semantics: the tag is evaluated
    once, the first matching clause runs; `break` ends the switch (Go), `continue` is the enclosing loop's. -/
theorem stmt_simulation_switch (env : Nat → Nat → Nat) (w : Nat) (hw : 0 < w) (fuel : Nat) (ls : List Loc)
    (tag : Expr) (cs : Stmt) : StmtOKX env w ls fuel (.switch tag cs) :=
  (sim_all hw fuel (.switch tag cs)).okx

theorem stmt_simulation_switch_timeout (env : Nat → Nat → Nat) (w : Nat) (hw : 0 < w) (fuel : Nat) (ls : List Loc)
    (tag : Expr) (cs : Stmt) : StmtTOX env w ls fuel (.switch tag cs) :=
  (sim_all hw fuel (.switch tag cs)).tox

/-- a loop around a switch: `default`, a plain clause, a clause that ends in `continue`, and a `break`
    of the loop outside the switch. Go writes 0, 11, 3, 9. -/
def demoSwitch : Prog :=
  { decls := [false],
    body := .seq (.tassign [(0, .lit 0)])
      (.seq (.loop none
          (.seq (.ifThen (.eq (.var 0) (.lit 4)) (.seq .brk .skip))
          (.seq (.switch (.var 0)
              (.swCase 1 (.seq (.iowrite 0 (.lit 11)) .skip)
              (.swCase 2 (.seq (.inc 0) (.seq .cont .skip))
              (.swDefault (.seq (.iowrite 0 (.var 0)) .skip)))))
          (.seq (.inc 0) .skip))))
      (.seq (.iowrite 0 (.lit 9)) .skip)) }

example : scopedProg demoSwitch = true ∧ noStray demoSwitch.body = true ∧ wfProg demoSwitch = true ∧
    (compileXP demoSwitch).isSome = true := by decide +kernel

example : runCode (fun _ _ => 0) 8 ((compileXP demoSwitch).getD []) 300
    = ([(0, 0), (0, 11), (0, 3), (0, 9)], true) := by decide +kernel

example (env : Nat → Nat → Nat) (fuel : Nat) :
    ∃ n, (runCode env 8 ((compileXP demoSwitch).getD []) n).1 = (goEvalX env 8 fuel demoSwitch).1 := by
  have hc : compileXP demoSwitch = some ((compileXP demoSwitch).getD []) := by decide +kernel
  obtain ⟨n, h, _⟩ := compile_correct_x env 8 fuel demoSwitch _ (by decide) (by decide) (by decide) hc
  exact ⟨n, h⟩

/-- `break` directly in a clause ends the switch, not the loop around it (Go): 0, 2, 9.
    (/repo before 5d0e719 emitted a jump to the end of the loop: 0, 9 — corpus/C12/17-break-in-switch.json.) -/
def demoSwitchBreak : Prog :=
  { decls := [false],
    body := .seq (.tassign [(0, .lit 0)])
      (.seq (.loop none
          (.seq (.ifThen (.eq (.var 0) (.lit 3)) (.seq .brk .skip))
          (.seq (.switch (.var 0)
              (.swCase 1 (.seq .brk .skip)
              (.swDefault (.seq (.iowrite 0 (.var 0)) .skip))))
          (.seq (.inc 0) .skip))))
      (.seq (.iowrite 0 (.lit 9)) .skip)) }

example : scopedProg demoSwitchBreak = true ∧ noStray demoSwitchBreak.body = true ∧
    runCode (fun _ _ => 0) 8 ((compileXP demoSwitchBreak).getD []) 300 = ([(0, 0), (0, 2), (0, 9)], true) := by decide +kernel

/-- `break` in a switch that is in no loop (accepted since /repo 5d0e719; `noStray` allows it): the rest of
    the clause is skipped. Go writes 1, 9. -/
def demoSwitchBreakNoLoop : Prog :=
  { decls := [false],
    body := .seq (.tassign [(0, .lit 2)])
      (.seq (.switch (.var 0)
          (.swCase 2 (.seq (.iowrite 0 (.lit 1)) (.seq (.ifThen (.eq (.var 0) (.lit 2)) (.seq .brk .skip))
            (.seq (.iowrite 0 (.lit 7)) .skip)))
          (.swDefault (.seq (.iowrite 0 (.lit 8)) .skip))))
      (.seq (.iowrite 0 (.lit 9)) .skip)) }

example : scopedProg demoSwitchBreakNoLoop = true ∧ noStray demoSwitchBreakNoLoop.body = true ∧
    runCode (fun _ _ => 0) 8 ((compileXP demoSwitchBreakNoLoop).getD []) 100 = ([(0, 1), (0, 9)], true) := by decide +kernel

example (env : Nat → Nat → Nat) (fuel : Nat) :
    ∃ n, runCode env 8 ((compileXP demoSwitchBreakNoLoop).getD []) n = goEvalX env 8 fuel demoSwitchBreakNoLoop := by
  have hc : compileXP demoSwitchBreakNoLoop = some ((compileXP demoSwitchBreakNoLoop).getD []) := by decide +kernel
  obtain ⟨n, h1, h2⟩ := compile_correct_x env 8 fuel demoSwitchBreakNoLoop _ (by decide) (by decide) (by decide) hc
  have hd : (goEvalX env 8 fuel demoSwitchBreakNoLoop).2 = true := by
    rcases execX_status env 8 fuel demoSwitchBreakNoLoop.body {} (by decide) with h | h
    · simp [goEvalX, h]
    · exfalso
      simp [demoSwitchBreakNoLoop, execX, swSelect, evalE, evalC, evalEs, assignAll, upd] at h
  exact ⟨n, Prod.ext h1 (by rw [h2 hd, hd])⟩

end BMV.Props.C12
