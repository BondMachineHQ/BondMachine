/-
  Helper lemmas for C03 (BMV.Encode).
-/
import BMV.Encode
import BMV.Proofs.Bits
namespace BMV.Encode
open BMV BMV.Bits

/-- an operand value fits its field -/
def Fits (a : Arch) : FieldKind → Operand → Prop
  | .reg, .reg k => k < 2 ^ a.r ∧ 1 ≤ a.r
  | .inp, .inp k => k < a.n ∧ k < 2 ^ a.inBits
  | .out, .out k => k < a.m ∧ k < 2 ^ a.outBits
  | .so kind short, .so s k => s = short ∧ k < a.sharedNum kind ∧ k < 2 ^ a.sharedBits kind
  | .so _ _, .num _ => False
  | f, .num n => n < 2 ^ a.width f ∧ 1 ≤ a.width f ∧ f ≠ .reg ∧ f ≠ .inp ∧ f ≠ .out
  | _, _ => False

/-- the number an operand carries (its index, or the number itself); `encOperand_some` says that an
    accepted operand is encoded as `encField` of the field's width and this value -/
def opVal : Operand → Nat
  | .reg k => k | .inp k => k | .out k => k | .num n => n | .so _ k => k | .bad => 0

section operands
variable {a : Arch} {f : FieldKind} {x : Operand} {b : Bits}

/-- what an accepted operand is encoded as, that it is read back, and what was checked on the way.
    Numbers are not checked here: only the kind of the operand and, for an index, its range.  The
    last component is written as `C03.asm_operands_fit` states it, whose per-operand half this is
    (`Fits` above additionally asks for the width bounds, which only the final width check gives). -/
theorem encOperand_some :
    encOperand a f x = some b →
    b = encField (a.width f) (opVal x) ∧ decOperand f (opVal x) = x ∧
    (match f, x with
      | .reg, .reg _ => True
      | .inp, .inp k => k < a.n
      | .out, .out k => k < a.m
      | .reg, _ | .inp, _ | .out, _ => False
      | .so kind short, .so s k => s = short ∧ k < a.sharedNum kind
      | .so _ _, _ => False
      | _, .num _ => True
      | _, _ => False) := by
  intro h
  unfold encOperand at h
  -- the arms of `encOperand` in its order; the shape asked of `h` says which arm each is
  split at h
  next k =>
    obtain ⟨_, e⟩ := Option.ite_none_right_eq_some.mp (h : (if k < 2 ^ a.r then _ else _) = _)
    cases e; exact ⟨rfl, rfl, trivial⟩
  next k =>
    obtain ⟨hk, e⟩ := Option.ite_none_right_eq_some.mp (h : (if k < a.n then _ else _) = _)
    cases e; exact ⟨rfl, rfl, hk⟩
  next k =>
    obtain ⟨hk, e⟩ := Option.ite_none_right_eq_some.mp (h : (if k < a.m then _ else _) = _)
    cases e; exact ⟨rfl, rfl, hk⟩
  iterate 6 next n => cases (h : some (encField _ n) = _); exact ⟨rfl, rfl, trivial⟩
  next kind short s k =>
    obtain ⟨⟨rfl, hk⟩, e⟩ :=
      Option.ite_none_right_eq_some.mp (h : (if s = short ∧ k < a.sharedNum kind then _ else _) = _)
    cases e; exact ⟨rfl, rfl, rfl, hk⟩
  next => cases (h : none = _)

theorem encOperand_eq (h : encOperand a f x = some b) : b = encField (a.width f) (opVal x) ∧ decOperand f (opVal x) = x :=
  ⟨(encOperand_some h).1, (encOperand_some h).2.1⟩

theorem encOperand_len_ge (h : encOperand a f x = some b) : a.width f ≤ b.length := by
  rw [(encOperand_eq h).1]; exact encField_length_ge _ _

/-- `encOperands` accepts only by encoding the operands one by one against the fields: induction
    over its accepting runs -/
theorem encOperands_induction {P : List FieldKind → List Operand → Bits → Prop}
    (nil : P [] [] [])
    (cons : ∀ {f fs x xs b bs}, encOperand a f x = some b → encOperands a fs xs = some bs → P fs xs bs →
      P (f :: fs) (x :: xs) (b ++ bs)) :
    ∀ {fs xs body}, encOperands a fs xs = some body → P fs xs body
  | [], [], _, h => by cases h; exact nil
  | [], _ :: _, _, h => by cases h
  | _ :: _, [], _, h => by cases h
  | f :: fs, x :: xs, body, h => by
    unfold encOperands at h
    split at h
    · rename_i b bs h1 h2; cases h; exact cons h1 h2 (encOperands_induction nil cons h2)
    · cases h

variable {fs : List FieldKind} {xs : List Operand} {body : Bits}

theorem encOperands_length (h : encOperands a fs xs = some body) : fs.length = xs.length :=
  encOperands_induction (P := fun fs xs _ => fs.length = xs.length) rfl
    (fun _ _ ih => congrArg (· + 1) ih) h

theorem encOperands_len_ge (h : encOperands a fs xs = some body) : (fs.map a.width).sum ≤ body.length :=
  encOperands_induction (P := fun fs _ body => (fs.map a.width).sum ≤ body.length) (Nat.le_refl 0)
    (fun h1 _ ih => by
      have := encOperand_len_ge h1
      simp only [List.map_cons, List.sum_cons, List.length_append]; omega) h

/-- no field is shorter than its nominal width, so a body of exactly the nominal length has every
    field exact: induction over the accepting runs with such a body -/
theorem encOperands_exact_induction {P : List FieldKind → List Operand → Bits → Prop}
    (nil : P [] [] [])
    (cons : ∀ {f fs x xs b bs}, encOperand a f x = some b → b.length = a.width f → P fs xs bs →
      P (f :: fs) (x :: xs) (b ++ bs))
    (h : encOperands a fs xs = some body) : body.length = (fs.map a.width).sum → P fs xs body :=
  encOperands_induction (P := fun fs xs body => body.length = (fs.map a.width).sum → P fs xs body)
    (fun _ => nil)
    (fun h1 h2 ih hl => by
      have := encOperand_len_ge h1
      have := encOperands_len_ge h2
      simp only [List.map_cons, List.sum_cons, List.length_append] at hl
      exact cons h1 (by omega) (ih (by omega))) h

theorem decOperands_encOperands (h : encOperands a fs xs = some body) (hl : body.length = (fs.map a.width).sum) (pad : Bits) :
    decOperands a fs (body ++ pad) = xs :=
  encOperands_exact_induction (P := fun fs xs body => decOperands a fs (body ++ pad) = xs) rfl
    (fun {f _ x _ b _} h1 hb ih => by
      obtain ⟨rfl, hd⟩ := encOperand_eq h1
      rw [decOperands, List.append_assoc, List.take_left' hb, List.drop_left' hb, ih, getId_encField, hd])
    h hl

theorem encOperands_exact_get (h : encOperands a fs xs = some body) (hl : body.length = (fs.map a.width).sum) :
    ∀ (j : Nat) f x, fs[j]? = some f → xs[j]? = some x →
      ∃ b, encOperand a f x = some b ∧ b.length = a.width f :=
  encOperands_exact_induction
    (P := fun fs xs _ => ∀ (j : Nat) f x, fs[j]? = some f → xs[j]? = some x →
      ∃ b, encOperand a f x = some b ∧ b.length = a.width f)
    (fun _ _ _ hf => nomatch hf)
    (fun {_ _ _ _ b _} h1 hb ih j f x hf hx => by
      cases j with
      | zero => cases hf; cases hx; exact ⟨b, h1, hb⟩
      | succ j => exact ih j f x hf hx)
    h hl

end operands

/-! rows of the layout table that the proofs about the simulator and the hardware model need
    (evaluating the table is dear: once each) -/

theorem layout_rset : layout "rset" = some [.reg, .imm] := by decide +kernel
theorem layout_j : layout "j" = some [.loc] := by decide +kernel
theorem layout_jz : layout "jz" = some [.reg, .rom] := by decide +kernel
theorem layout_i2r : layout "i2r" = some [.reg, .inp] := by decide +kernel
theorem layout_i2rw : layout "i2rw" = some [.reg, .inp] := by decide +kernel
theorem layout_r2o : layout "r2o" = some [.reg, .out] := by decide +kernel
theorem layout_r2owa : layout "r2owa" = some [.reg, .out] := by decide +kernel

theorem foldl_max_ge (l : List Nat) (init : Nat) : init ≤ l.foldl max init ∧ ∀ x ∈ l, x ≤ l.foldl max init := by
  induction l generalizing init with
  | nil => simp
  | cons y ys ih =>
    obtain ⟨h1, h2⟩ := ih (max init y)
    simp only [List.foldl_cons, List.mem_cons, forall_eq_or_imp]
    exact ⟨by omega, by omega, h2⟩

theorem instrLen_le_maxWord (a : Arch) (h : a.wordSize = 0) {op : String} (hop : op ∈ a.ops) :
    a.instrLen op ≤ a.maxWord := by
  unfold Arch.maxWord
  rw [if_pos h]
  exact (foldl_max_ge _ 1).2 _ (List.mem_map.mpr ⟨op, hop, rfl⟩)

/-- everything `asm a i = .ok w` tells us.  The opcode field and the body are at least as long as
    their nominal widths and the padding makes up the difference to `maxWord` (or is empty), so
    the final width check forces both to be exact. -/
theorem asm_ok_inv {a : Arch} {i : Instr} {w : Bits} (h : asm a i = .ok w) :
    ∃ idx fs body,
      a.ops.findIdx? (· == i.op) = some idx ∧ layout i.op = some fs ∧
      encOperands a fs (normalise i).args = some body ∧
      (encField a.opBits idx).length = a.opBits ∧ body.length = (fs.map a.width).sum ∧
      w = encField a.opBits idx ++ body ++ List.replicate (a.maxWord - (a.opBits + (fs.map a.width).sum)) false ∧
      w.length = a.maxWord := by
  unfold asm at h
  split at h
  · cases h
  rename_i w' hr
  split at h <;> cases h
  rename_i hlen
  unfold asmRaw at hr
  split at hr
  · cases hr
  rename_i idx hidx
  split at hr
  · cases hr
  rename_i fs hlay
  split at hr
  · cases hr
  split at hr <;> cases hr
  rename_i body hbody
  have := encField_length_ge a.opBits idx
  have := encOperands_len_ge hbody
  simp only [List.length_append, List.length_replicate] at hlen
  exact ⟨idx, fs, body, hidx, hlay, hbody, by omega, by omega, rfl,
    by simp only [List.length_append, List.length_replicate]; exact hlen⟩

theorem findIdx_get {ops : List String} {op : String} {idx : Nat}
    (h : ops.findIdx? (· == op) = some idx) : ops[idx]? = some op := by
  obtain ⟨hlt, hp, _⟩ := List.findIdx?_eq_some_iff_getElem.mp h
  rw [List.getElem?_eq_getElem hlt, beq_iff_eq.mp hp]

theorem normalise_idem (i : Instr) : normalise (normalise i) = normalise i := by
  unfold normalise; by_cases h : lenientArity i.op <;> simp [h]

theorem asm_normalise (a : Arch) (i : Instr) : asm a (normalise i) = asm a i := by
  unfold asm asmRaw
  rw [normalise_idem]
  rfl

theorem mapM_ok {α β ε : Type} (f : α → Except ε β) :
    ∀ (l : List α) (ws : List β), l.mapM f = .ok ws →
      ws.length = l.length ∧ ∀ p ∈ l.zip ws, f p.1 = .ok p.2 := by
  intro l
  induction l with
  | nil => intro ws h; cases h; simp
  | cons x xs ih =>
    intro ws h
    rw [List.mapM_cons] at h
    cases hx : f x with
    | error e => rw [hx] at h; cases h
    | ok b =>
      cases hxs : xs.mapM f with
      | error e => rw [hx, hxs] at h; cases h
      | ok bs =>
        rw [hx, hxs] at h; cases h
        obtain ⟨hl, hall⟩ := ih bs hxs
        simp only [List.length_cons, hl, List.zip_cons_cons, List.mem_cons, forall_eq_or_imp]
        exact ⟨trivial, hx, hall⟩

theorem mapM_ok_mem {α β ε : Type} {f : α → Except ε β} {l : List α} {ws : List β}
    (h : l.mapM f = .ok ws) {x : α} (hx : x ∈ l) : ∃ y, f x = .ok y := by
  obtain ⟨hl, hall⟩ := mapM_ok f l ws h
  obtain ⟨k, hk⟩ := List.mem_iff_getElem?.mp hx
  have hkw : k < ws.length := hl ▸ (List.getElem?_eq_some_iff.mp hk).1
  exact ⟨ws[k], hall (x, ws[k]) (List.mem_iff_getElem?.mpr
    ⟨k, List.getElem?_zip_eq_some.mpr ⟨hk, List.getElem?_eq_getElem hkw⟩⟩)⟩

theorem mapM_some_of_zip {α β γ : Type} (f : β → Option γ) (g : α → γ) :
    ∀ (l : List α) (ws : List β), ws.length = l.length →
      (∀ p ∈ l.zip ws, f p.2 = some (g p.1)) → ws.mapM f = some (l.map g) := by
  intro l
  induction l with
  | nil => intro ws hl _; cases ws with
    | nil => rfl
    | cons _ _ => cases hl
  | cons x xs ih =>
    intro ws hl hall
    cases ws with
    | nil => cases hl
    | cons w ws' =>
      simp only [List.zip_cons_cons, List.mem_cons, forall_eq_or_imp] at hall
      rw [List.mapM_cons, hall.1, ih ws' (Nat.succ.inj hl) hall.2]
      rfl

end BMV.Encode
