/-
  Helper lemmas for C06 (BMV.Frag): temporaries, renaming, block execution.
-/
import BMV.Frag
namespace BMV.Frag

/-! ## NextResource / allocTemps -/

theorem le_foldl_max (l : List Nat) (a x : Nat) (h : x ≤ a ∨ x ∈ l) : x ≤ l.foldl max a := by
  induction l generalizing a with
  | nil => simp at h; simpa using h
  | cons y ys ih =>
    simp only [List.foldl_cons]
    apply ih
    rcases h with h | h
    · left; exact Nat.le_trans h (Nat.le_max_left a y)
    · rcases List.mem_cons.mp h with h | h
      · left; subst h; exact Nat.le_max_right a x
      · right; exact h

theorem lowestFree_not_mem (used : List Nat) : lowestFree used ∉ used := by
  unfold lowestFree
  cases hf : (List.range (used.foldl max 0 + 2)).find? (fun n => !used.contains n) with
  | some n =>
    have := List.find?_some hf
    simp only [Option.getD_some]
    simpa using this
  | none =>
    simp only [Option.getD_none]
    intro hm
    have := le_foldl_max used 0 _ (Or.inr hm)
    omega

theorem allocTemps_fresh (k : Nat) : ∀ used : List Nat,
    (allocTemps used k).Nodup ∧ ∀ n ∈ allocTemps used k, n ∉ used := by
  induction k with
  | zero => intro used; simp [allocTemps]
  | succ k ih =>
    intro used
    simp only [allocTemps]
    have hf := lowestFree_not_mem used
    obtain ⟨hn, hd⟩ := ih (lowestFree used :: used)
    refine ⟨?_, ?_⟩
    · refine List.nodup_cons.mpr ⟨?_, hn⟩
      intro hm
      exact (hd _ hm) (List.mem_cons_self ..)
    · intro n hm
      rcases List.mem_cons.mp hm with h | h
      · subst h; exact hf
      · intro hu; exact (hd n h) (List.mem_cons_of_mem _ hu)

theorem allocTemps_length (k : Nat) : ∀ used : List Nat, (allocTemps used k).length = k := by
  induction k with
  | zero => intro; rfl
  | succ k ih => intro used; simp [allocTemps, ih]

theorem mem_usedR {sec : List SInstr} {n : Nat} (h : Reg.r n ∈ secRegs sec) : n ∈ usedR sec := by
  unfold usedR
  exact List.mem_filterMap.mpr ⟨.r n, h, rfl⟩

theorem substReg_r (T : List Nat) (n : Nat) : substReg T (.r n) = .r n := rfl

theorem substReg_eq_r {T : List Nat} {x : Reg} {n : Nat} (h : substReg T x = .r n) :
    x = .r n ∨ ∃ k, x = .t k ∧ T[k]? = some n := by
  cases x with
  | r m => exact Or.inl h
  | t k =>
    simp only [substReg] at h
    cases hk : T[k]? with
    | none => rw [hk] at h; cases h
    | some v => rw [hk] at h; exact Or.inr ⟨k, rfl, hk.trans (congrArg some (Reg.r.inj h))⟩

theorem substReg_eq_t {T : List Nat} {x : Reg} {k : Nat} (h : substReg T x = .t k) : x = .t k := by
  cases x with
  | r m => cases h
  | t k' =>
    simp only [substReg] at h
    cases hk : T[k']? with
    | none => rw [hk] at h; exact h
    | some v => rw [hk] at h; cases h

/-- `ReplaceArg` with the registers chosen by `NextResource` never identifies two different
    registers of the section: a temporary is mapped to a register that is fresh for the section,
    and different temporaries to different ones -/
theorem substReg_inj (sec : List SInstr) :
    ∀ x ∈ secRegs sec, ∀ y ∈ secRegs sec,
      substReg (tempRegs sec) x = substReg (tempRegs sec) y → x = y := by
  intro x hx y hy hxy
  obtain ⟨hnd, hfresh⟩ := allocTemps_fresh (countTemps sec) (usedR sec)
  change (tempRegs sec).Nodup at hnd
  change ∀ n ∈ tempRegs sec, n ∉ usedR sec at hfresh
  cases hσ : substReg (tempRegs sec) y with
  | t k => rw [substReg_eq_t hσ, substReg_eq_t (hxy.trans hσ)]
  | r n =>
    rcases substReg_eq_r (hxy.trans hσ) with rfl | ⟨k, rfl, hk⟩ <;>
      rcases substReg_eq_r hσ with rfl | ⟨k', rfl, hk'⟩
    · rfl
    · exact absurd (mem_usedR hx) (hfresh n (List.mem_of_getElem? hk'))
    · exact absurd (mem_usedR hy) (hfresh n (List.mem_of_getElem? hk))
    · rw [(List.getElem?_inj (List.getElem?_eq_some_iff.mp hk).1 hnd).mp (hk.trans hk'.symm)]

theorem Instr.val_congr (w : Nat) (i : Instr) (ρ ρ' : Nat → Nat)
    (h : ∀ n ∈ i.srcs, ρ n = ρ' n) : i.val w ρ = i.val w ρ' := by
  cases i with
  | rset _ _ | clr _ => rfl
  | inc d | dec d => simp only [Instr.val, h d (List.mem_singleton_self d)]
  | add d s | mult d s =>
    simp only [Instr.val, h d (List.mem_cons_self ..), h s (List.mem_cons_of_mem _ (List.mem_singleton_self s))]
  | cpy _ s => exact h s (List.mem_singleton_self s)

/-- `st'` is `st` with the registers of `S` renamed by `σ`: same outputs, same contents -/
def RenRel (S : List Reg) (σ : Reg → Reg) (st st' : SecSt) : Prop :=
  st'.outs = st.outs ∧ ∀ x ∈ S, st'.regs (σ x) = st.regs x

theorem upd_rename {S : List Reg} {σ : Reg → Reg} {ρ ρ' : RegFile} {d : Reg} (v : Nat)
    (hinj : ∀ x ∈ S, ∀ y ∈ S, σ x = σ y → x = y)
    (h : ∀ x ∈ S, ρ' (σ x) = ρ x) (hd : d ∈ S) :
    ∀ x ∈ S, (upd ρ' (σ d) v) (σ x) = (upd ρ d v) x := by
  intro x hx
  unfold upd
  by_cases hxd : x = d
  · subst hxd; simp
  · have : σ x ≠ σ d := fun e => hxd (hinj x hx d hd e)
    simp [hxd, this, h x hx]

theorem step_rename (w : Nat) (inp : Nat → Nat) {S : List Reg} {σ : Reg → Reg}
    (hinj : ∀ x ∈ S, ∀ y ∈ S, σ x = σ y → x = y) (hr : ∀ n, σ (.r n) = .r n)
    (ins : SInstr) (hins : ∀ x ∈ ins.regs, x ∈ S) (st st' : SecSt) (h : RenRel S σ st st') :
    RenRel S σ (ins.step w inp st) ((ins.mapReg σ).step w inp st') := by
  obtain ⟨ho, hreg⟩ := h
  cases ins with
  | movIn d k =>
    refine ⟨ho, ?_⟩
    exact upd_rename _ hinj hreg (hins d (List.mem_singleton_self d))
  | movOut k s =>
    refine ⟨?_, hreg⟩
    simp only [SInstr.step, SInstr.mapReg, ho, hreg s (hins s (List.mem_singleton_self s))]
  | movReg d s =>
    refine ⟨ho, ?_⟩
    have hs := hreg s (hins s (List.mem_cons_of_mem _ (List.mem_singleton_self s)))
    simp only [SInstr.step, SInstr.mapReg, hs]
    exact upd_rename _ hinj hreg (hins d (List.mem_cons_self ..))
  | op i =>
    refine ⟨ho, ?_⟩
    simp only [SInstr.step, SInstr.mapReg, Instr.execR]
    have hv : i.val w (fun n => st'.regs (.r n)) = i.val w (fun n => st.regs (.r n)) := by
      apply Instr.val_congr
      intro n hn
      have hm : Reg.r n ∈ S := hins _ (List.mem_cons_of_mem _ (List.mem_map_of_mem hn))
      have := hreg _ hm
      rw [hr] at this
      exact this
    rw [hv]
    have hd : Reg.r i.dst ∈ S := hins _ (List.mem_cons_self ..)
    have := upd_rename (σ := σ) (i.val w (fun n => st.regs (.r n))) hinj hreg hd
    rw [hr] at this
    exact this
  | jStart => exact ⟨ho, hreg⟩

theorem runSec_rename (w : Nat) (inp : Nat → Nat) {S : List Reg} {σ : Reg → Reg}
    (hinj : ∀ x ∈ S, ∀ y ∈ S, σ x = σ y → x = y) (hr : ∀ n, σ (.r n) = .r n) :
    ∀ (sec : List SInstr), (∀ ins ∈ sec, ∀ x ∈ ins.regs, x ∈ S) →
      ∀ st st', RenRel S σ st st' →
        RenRel S σ (runSec w inp sec st) (runSec w inp (sec.map (SInstr.mapReg σ)) st') := by
  intro sec
  induction sec with
  | nil => intro _ st st' h; exact h
  | cons ins rest ih =>
    intro hs st st' h
    simp only [runSec, List.map_cons, List.foldl_cons]
    apply ih (fun i hi => hs i (List.mem_cons_of_mem _ hi))
    exact step_rename w inp hinj hr ins (hs ins (List.mem_cons_self ..)) st st' h

theorem secRes_outs (g : Graph) (l : List Nat) (w : Nat) (inp : Nat → Nat) (ρ : RegFile) :
    (runSec w inp (secRes g l) ⟨ρ, []⟩).outs =
      (runSec w inp (secSym g l) ⟨fun x => ρ (substReg (tempRegs (secSym g l)) x), []⟩).outs := by
  have h := runSec_rename w inp (S := secRegs (secSym g l))
    (σ := substReg (tempRegs (secSym g l))) (substReg_inj (secSym g l)) (fun _ => rfl)
    (secSym g l)
    (fun ins hi x hx => List.mem_flatMap.mpr ⟨ins, hi, hx⟩)
    ⟨fun x => ρ (substReg (tempRegs (secSym g l)) x), []⟩ ⟨ρ, []⟩ ⟨rfl, fun _ _ => rfl⟩
  exact h.1


theorem enumFrom_eq {α : Type} (l : List α) (n : Nat) :
    enumFrom n l = (l.zipIdx n).map fun p => (p.2, p.1) := by
  induction l generalizing n with
  | nil => rfl
  | cons x xs ih => rw [enumFrom, ih, List.zipIdx_cons, List.map_cons]

theorem enum_map_snd {α : Type} (l : List α) : (enum l).map (·.2) = l := by
  rw [enum, enumFrom_eq, List.map_map]; exact List.zipIdx_map_fst 0 l

theorem mem_enum {α : Type} (l : List α) (j : Nat) (x : α) : (j, x) ∈ enum l ↔ l[j]? = some x := by
  rw [enum, enumFrom_eq, List.mem_map]
  constructor
  · rintro ⟨p, hp, e⟩
    cases e
    exact List.mem_zipIdx_iff_getElem?.mp hp
  · intro h
    exact ⟨(x, j), List.mem_zipIdx_iff_getElem?.mpr h, rfl⟩

theorem enum_inj_snd {l : List Nat} (hnd : l.Nodup) {a b : Nat × Nat} (ha : a ∈ enum l) (hb : b ∈ enum l)
    (h : a.2 = b.2) : a = b := by
  obtain ⟨j, r⟩ := a
  obtain ⟨j', r'⟩ := b
  cases (show r = r' from h)
  have h1 := (mem_enum l j r).mp ha
  rw [(List.getElem?_inj (List.getElem?_eq_some_iff.mp h1).1 hnd).mp (h1.trans ((mem_enum l j' r).mp hb).symm)]

theorem enum_inj_fst {α : Type} {l : List α} {a b : Nat × α} (ha : a ∈ enum l) (hb : b ∈ enum l)
    (h : a.1 = b.1) : a = b := by
  obtain ⟨j, r⟩ := a
  obtain ⟨j', r'⟩ := b
  cases (show j = j' from h)
  rw [Option.some.inj (((mem_enum l j r).mp ha).symm.trans ((mem_enum l j r').mp hb))]

theorem runSec_append (w : Nat) (inp : Nat → Nat) (a b : List SInstr) (st : SecSt) :
    runSec w inp (a ++ b) st = runSec w inp b (runSec w inp a st) := by
  simp [runSec, List.foldl_append]

theorem execR_r (w : Nat) (ρ : RegFile) (i : Instr) :
    (fun m => (i.execR w ρ) (.r m)) = i.exec w (fun m => ρ (.r m)) := by
  funext m
  simp only [Instr.execR, Instr.exec, upd, Reg.r.injEq]

theorem execR_t (w : Nat) (ρ : RegFile) (i : Instr) (k : Nat) : (i.execR w ρ) (.t k) = ρ (.t k) := by
  simp [Instr.execR, upd]

theorem runSec_body (w : Nat) (inp : Nat → Nat) (b : List Instr) (st : SecSt) {st' : SecSt}
    (hst : runSec w inp (b.map .op) st = st') :
    st'.outs = st.outs ∧ (∀ k, st'.regs (.t k) = st.regs (.t k)) ∧
    ∀ n, st'.regs (.r n) = runBody w b (fun m => st.regs (.r m)) n := by
  subst hst
  induction b generalizing st with
  | nil => simp [runSec, runBody]
  | cons i rest ih =>
    have h := @ih (SInstr.step w inp st (.op i))
    simp only [runSec, List.map_cons, List.foldl_cons] at h ⊢
    refine ⟨h.1, ?_, ?_⟩
    · intro k; rw [h.2.1 k]; simp [SInstr.step, execR_t]
    · intro n
      rw [h.2.2 n]
      simp only [SInstr.step, runBody, List.foldl_cons]
      rw [execR_r]

theorem defsOk_agree (w : Nat) : ∀ (b : List Instr) (D D' : List Nat) (ρ ρ' : Nat → Nat),
    defsOk D b = some D' → (∀ n ∈ D, ρ n = ρ' n) →
    ∀ n ∈ D', runBody w b ρ n = runBody w b ρ' n := by
  intro b
  induction b with
  | nil =>
    intro D D' ρ ρ' h hag n hn
    simp only [defsOk, Option.some.injEq] at h
    subst h
    simpa [runBody] using hag n hn
  | cons i rest ih =>
    intro D D' ρ ρ' h hag n hn
    simp only [defsOk] at h
    split at h
    · rename_i hs
      simp only [runBody, List.foldl_cons]
      apply ih (i.dst :: D) D' _ _ h _ n hn
      intro m hm
      have hv : i.val w ρ = i.val w ρ' := by
        apply Instr.val_congr
        intro x hx
        apply hag
        have := List.all_eq_true.mp hs x hx
        simpa using this
      simp only [Instr.exec, upd, hv]
      by_cases hmd : m = i.dst
      · simp [hmd]
      · simp only [hmd, if_false]
        rcases List.mem_cons.mp hm with h' | h'
        · exact absurd h' hmd
        · exact hag m h'
    · cases h

theorem loadRegs_cons (r v : Nat) (rs vs : List Nat) (ρ : Nat → Nat) :
    loadRegs (r :: rs) (v :: vs) ρ = loadRegs rs vs (upd ρ r v) := by
  simp [loadRegs]

theorem loadRegs_not_mem : ∀ (rs vs : List Nat) (ρ : Nat → Nat) (x : Nat),
    x ∉ rs → loadRegs rs vs ρ x = ρ x := by
  intro rs
  induction rs with
  | nil => intro vs ρ x _; simp [loadRegs]
  | cons r rs ih =>
    intro vs ρ x hx
    cases vs with
    | nil => simp [loadRegs]
    | cons v vs =>
      rw [loadRegs_cons, ih vs _ x (fun h => hx (List.mem_cons_of_mem _ h))]
      have : x ≠ r := fun e => hx (e ▸ List.mem_cons_self ..)
      simp [upd, this]

theorem loadRegs_get : ∀ (rs vs : List Nat) (ρ : Nat → Nat), rs.Nodup → rs.length ≤ vs.length →
    ∀ j r, rs[j]? = some r → loadRegs rs vs ρ r = vs.getD j 0 := by
  intro rs
  induction rs with
  | nil => intro vs ρ _ _ j r h; simp at h
  | cons r0 rs ih =>
    intro vs ρ hnd hlen j r h
    cases vs with
    | nil => simp at hlen
    | cons v vs =>
      rw [loadRegs_cons]
      obtain ⟨hn0, hnd'⟩ := List.nodup_cons.mp hnd
      cases j with
      | zero =>
        simp only [List.getElem?_cons_zero, Option.some.injEq] at h
        subst h
        rw [loadRegs_not_mem rs vs _ _ hn0]
        simp [upd]
      | succ j =>
        simp only [List.getElem?_cons_succ] at h
        rw [ih vs _ hnd' (by simpa using hlen) j r h]
        simp

theorem fn_spec (w : Nat) (f : Fragment) (hwb : f.wb = true) (vs : List Nat)
    (hlen : vs.length = f.resin.length) (ρ : Nat → Nat)
    (hρ : ∀ j r, f.resin[j]? = some r → ρ r = vs.getD j 0) :
    ∀ p r, f.resout[p]? = some r → runBody w f.body ρ r = (f.fn w vs).getD p 0 := by
  intro p r hp
  unfold Fragment.wb at hwb
  simp only [Bool.and_eq_true, decide_eq_true_eq] at hwb
  obtain ⟨hnd, hrest⟩ := hwb
  cases hD : defsOk f.resin f.body with
  | none => simp [hD] at hrest
  | some D =>
    simp only [hD] at hrest
    have hrD : r ∈ D := by
      have := List.all_eq_true.mp hrest r (List.mem_of_getElem? hp)
      simpa using this
    have hag : ∀ n ∈ f.resin, ρ n = loadRegs f.resin vs (fun _ => 0) n := by
      intro n hn
      obtain ⟨j, hj⟩ := List.mem_iff_getElem?.mp hn
      rw [hρ j n hj, loadRegs_get f.resin vs _ hnd (by omega) j n hj]
    rw [defsOk_agree w f.body f.resin D ρ _ hD hag r hrD]
    unfold Fragment.fn
    rw [List.getD_eq_getElem?_getD, List.getElem?_map, hp]
    simp


/-! ## rank (the composer's counters) -/

theorem rank_inj {α : Type} [DecidableEq α] (pred : α → Bool) : ∀ (L : List α) (x y : α),
    x ∈ L → y ∈ L → pred x = true → pred y = true → rank pred L x = rank pred L y → x = y := by
  intro L
  induction L with
  | nil => intro x y hx; cases hx
  | cons z zs ih =>
    intro x y hx hy px py h
    by_cases hzx : z = x
    · subst hzx
      by_cases hzy : z = y
      · exact hzy
      · simp only [rank, if_true, hzy, if_false, px] at h
        omega
    · by_cases hzy : z = y
      · subst hzy
        simp only [rank, hzx, if_false, if_true, py] at h
        omega
      · simp only [rank, hzx, hzy, if_false] at h
        have hx' : x ∈ zs := by
          rcases List.mem_cons.mp hx with e | e
          · exact absurd e.symm hzx
          · exact e
        have hy' : y ∈ zs := by
          rcases List.mem_cons.mp hy with e | e
          · exact absurd e.symm hzy
          · exact e
        exact ih x y hx' hy' px py (by omega)

section counters
variable (g : Graph) (l : List Nat)

theorem mem_outPairs (i p : Nat) :
    (i, p) ∈ outPairs g l ↔ i ∈ l ∧ p < g.nOut i := by
  simp only [outPairs, List.mem_flatMap, List.mem_map, List.mem_range, Prod.mk.injEq]
  constructor
  · rintro ⟨a, ha, b, hb, rfl, rfl⟩; exact ⟨ha, hb⟩
  · rintro ⟨h1, h2⟩; exact ⟨i, h1, p, h2, rfl, rfl⟩

theorem mem_inPairs (i j : Nat) :
    (i, j) ∈ inPairs g l ↔ i ∈ l ∧ j < g.nIn i := by
  simp only [inPairs, List.mem_flatMap, List.mem_map, List.mem_range, Prod.mk.injEq]
  constructor
  · rintro ⟨a, ha, b, hb, rfl, rfl⟩; exact ⟨ha, hb⟩
  · rintro ⟨h1, h2⟩; exact ⟨i, h1, j, h2, rfl, rfl⟩

/-- the index handed out to an element on which `pred` holds determines the element: this is what
    keeps the composer's `currNew…` counters from clashing -/
theorem rank_some_inj {α : Type} [DecidableEq α] (pred : α → Bool) (L : List α) {x y : α} {k : Nat}
    (hx : x ∈ L) (hy : y ∈ L)
    (h : (if pred x then some (rank pred L x) else none) = some k)
    (h' : (if pred y then some (rank pred L y) else none) = some k) : x = y := by
  split at h
  · split at h'
    · rename_i c c'
      exact rank_inj pred L x y hx hy c c' ((Option.some.inj h).trans (Option.some.inj h').symm)
    · cases h'
  · cases h

theorem tempIdx_inj (i p i' p' k : Nat)
    (hi : i ∈ l) (hp : p < g.nOut i) (hi' : i' ∈ l) (hp' : p' < g.nOut i')
    (h : tempIdx g l i p = some k) (h' : tempIdx g l i' p' = some k) : i = i' ∧ p = p' :=
  Prod.mk.inj (rank_some_inj (hasIntCons g l) (outPairs g l)
    ((mem_outPairs g l i p).mpr ⟨hi, hp⟩) ((mem_outPairs g l i' p').mpr ⟨hi', hp'⟩) h h')

theorem outPort_inj (i p i' p' k : Nat)
    (hi : i ∈ l) (hp : p < g.nOut i) (hi' : i' ∈ l) (hp' : p' < g.nOut i')
    (h : outPort g l i p = some k) (h' : outPort g l i' p' = some k) : i = i' ∧ p = p' :=
  Prod.mk.inj (rank_some_inj (hasExtCons g l) (outPairs g l)
    ((mem_outPairs g l i p).mpr ⟨hi, hp⟩) ((mem_outPairs g l i' p').mpr ⟨hi', hp'⟩) h h')

theorem inPort_inj (i j i' j' k : Nat)
    (hi : i ∈ l) (hj : j < g.nIn i) (hi' : i' ∈ l) (hj' : j' < g.nIn i')
    (h : inPort g l i j = some k) (h' : inPort g l i' j' = some k) : i = i' ∧ j = j' :=
  Prod.mk.inj (rank_some_inj (isPortIn g l) (inPairs g l)
    ((mem_inPairs g l i j).mpr ⟨hi, hj⟩) ((mem_inPairs g l i' j').mpr ⟨hi', hj'⟩) h h')

end counters

section moves
variable (w : Nat) (inp : Nat → Nat)

def SInstr.src? : SInstr → Option Reg
  | .movReg _ s => some s
  | _ => none

def SInstr.move? (inp : Nat → Nat) (ρ : RegFile) : SInstr → Option (Reg × Nat)
  | .movIn d k => some (d, inp k)
  | .movReg d s => some (d, ρ s)
  | _ => none

theorem SInstr.move?_upd (ρ : RegFile) (d : Reg) (v : Nat) (b : SInstr)
    (h : b.src? ≠ some d) : b.move? inp (upd ρ d v) = b.move? inp ρ := by
  cases b with
  | movReg d' s =>
    have : s ≠ d := fun e => h (congrArg some e)
    simp only [SInstr.move?, upd, if_neg this]
  | _ => rfl

theorem SInstr.step_move (st : SecSt) (ins : SInstr) (d : Reg) (v : Nat)
    (h : ins.move? inp st.regs = some (d, v)) :
    ins.step w inp st = { st with regs := upd st.regs d v } := by
  cases ins with
  | movIn d' k => cases h; rfl
  | movReg d' s => cases h; rfl
  | _ => cases h

/-- a list of moves none of which reads a register that one of them writes acts as the simultaneous
    assignment: a register written (with one value) holds that value, as read before the list ran -/
theorem run_moves (sec : List SInstr) (st : SecSt) {st' : SecSt} (hst : runSec w inp sec st = st')
    (hmv : ∀ ins ∈ sec, (ins.move? inp st.regs).isSome)
    (hsrc : ∀ a ∈ sec, ∀ b ∈ sec, ∀ d v, a.move? inp st.regs = some (d, v) → b.src? ≠ some d) :
    st'.outs = st.outs ∧
    (∀ x, (∀ ins ∈ sec, ∀ v, ins.move? inp st.regs ≠ some (x, v)) → st'.regs x = st.regs x) ∧
    (∀ ins ∈ sec, ∀ d v, ins.move? inp st.regs = some (d, v) →
        (∀ ins' ∈ sec, ∀ v', ins'.move? inp st.regs = some (d, v') → v' = v) → st'.regs d = v) := by
  subst hst
  induction sec generalizing st with
  | nil => exact ⟨rfl, fun _ _ => rfl, fun _ h => nomatch h⟩
  | cons a rest ih =>
    obtain ⟨⟨d0, v0⟩, ha⟩ := Option.isSome_iff_exists.mp (hmv a (List.mem_cons_self ..))
    -- the later instructions read what they would have read before `a`
    have hsame : ∀ b ∈ rest, b.move? inp (upd st.regs d0 v0) = b.move? inp st.regs := fun b hb =>
      SInstr.move?_upd inp st.regs d0 v0 b
        (hsrc a (List.mem_cons_self ..) b (List.mem_cons_of_mem _ hb) d0 v0 ha)
    have h := @ih { st with regs := upd st.regs d0 v0 }
      (fun b hb => show (b.move? inp (upd st.regs d0 v0)).isSome from
        hsame b hb ▸ hmv b (List.mem_cons_of_mem _ hb))
      (fun x hx b hb d v hxv => hsrc x (List.mem_cons_of_mem _ hx) b (List.mem_cons_of_mem _ hb) d v
        (hsame x hx ▸ hxv))
    have hrun : runSec w inp (a :: rest) st = runSec w inp rest { st with regs := upd st.regs d0 v0 } := by
      rw [← SInstr.step_move w inp st a d0 v0 ha]; rfl
    rw [hrun]
    refine ⟨h.1, ?_, ?_⟩
    · intro x hx
      have hne : x ≠ d0 := fun e => hx a (List.mem_cons_self ..) v0 (e ▸ ha)
      exact (h.2.1 x fun b hb v hb' => hx b (List.mem_cons_of_mem _ hb) v ((hsame b hb).symm.trans hb')).trans
        (if_neg hne)
    · intro ins hins d v hm huniq
      by_cases hex : ∃ ins' ∈ rest, ∃ v', ins'.move? inp st.regs = some (d, v')
      · obtain ⟨ins', hi', v', hm'⟩ := hex
        have hv := huniq ins' (List.mem_cons_of_mem _ hi') v' hm'
        subst hv
        exact h.2.2 ins' hi' d v' ((hsame ins' hi').trans hm') fun b hb v'' hb' =>
          huniq b (List.mem_cons_of_mem _ hb) v'' ((hsame b hb).symm.trans hb')
      · rcases List.mem_cons.mp hins with rfl | hr
        · cases ha.symm.trans hm
          exact (h.2.1 d0 fun b hb v' hb' => hex ⟨b, hb, v', (hsame b hb).symm.trans hb'⟩).trans
            (if_pos rfl)
        · exact absurd ⟨ins, hr, v, hm⟩ hex
theorem run_moves_keyed {ι : Type} (f : ι → Option SInstr) (key : ι → Reg) (items : List ι)
    (st : SecSt) {st' : SecSt} (hst : runSec w inp (items.filterMap f) st = st')
    (hkey : ∀ a ∈ items, ∀ ins, f a = some ins → ∃ v, ins.move? inp st.regs = some (key a, v))
    (hinj : ∀ a ∈ items, ∀ b ∈ items, (f a).isSome → (f b).isSome → key a = key b → a = b)
    (hsrc : ∀ a ∈ items, ∀ b ∈ items, ∀ ins, f b = some ins → ins.src? ≠ some (key a)) :
    st'.outs = st.outs ∧
    (∀ x, (∀ a ∈ items, (f a).isSome → key a ≠ x) → st'.regs x = st.regs x) ∧
    (∀ a ∈ items, ∀ ins d v, f a = some ins → ins.move? inp st.regs = some (d, v) → st'.regs d = v) := by
  have hm := fun ins (h : ins ∈ items.filterMap f) => List.mem_filterMap.mp h
  have hsome : ∀ {a ins}, f a = some ins → (f a).isSome := fun e => Option.isSome_iff_exists.mpr ⟨_, e⟩
  obtain ⟨h1, h2, h3⟩ := run_moves w inp (items.filterMap f) st hst
    (fun ins h => by
      obtain ⟨a, ha, e⟩ := hm ins h
      obtain ⟨v, hv⟩ := hkey a ha ins e
      exact Option.isSome_iff_exists.mpr ⟨_, hv⟩)
    (fun x hx y hy d v hxv => by
      obtain ⟨a, ha, ea⟩ := hm x hx
      obtain ⟨b, hb, eb⟩ := hm y hy
      obtain ⟨v', hv'⟩ := hkey a ha x ea
      cases hv'.symm.trans hxv
      exact hsrc a ha b hb y eb)
  refine ⟨h1, fun x hx => h2 x fun ins h v hv => ?_, fun a ha ins d v e hv =>
    h3 ins (List.mem_filterMap.mpr ⟨a, ha, e⟩) d v hv fun ins' h' v' hv' => ?_⟩
  · obtain ⟨a, ha, e⟩ := hm ins h
    obtain ⟨v', hv'⟩ := hkey a ha ins e
    cases hv'.symm.trans hv
    exact hx a ha (hsome e) rfl
  · obtain ⟨b, hb, eb⟩ := hm ins' h'
    obtain ⟨va, hva⟩ := hkey a ha ins e
    obtain ⟨vb, hvb⟩ := hkey b hb ins' eb
    have hka : key a = d := (Prod.mk.inj (Option.some.inj (hva.symm.trans hv))).1
    have hkb : key b = d := (Prod.mk.inj (Option.some.inj (hvb.symm.trans hv'))).1
    cases hinj b hb a ha (hsome eb) (hsome e) (hkb.trans hka.symm)
    cases eb.symm.trans e
    exact (Prod.mk.inj (Option.some.inj (hv'.symm.trans hv))).2

end moves

section wf
variable (g : Graph)

theorem wf_inst (h : g.wf = true) (i : Nat) (hi : i < g.insts.length) :
    (g.frag i).wb = true ∧
    ∀ j, j < g.nIn i → g.inCount i j = 1 ∧ ∃ s, g.inSrc i j = some s ∧ g.srcOk i s = true := by
  unfold Graph.wf at h
  simp only [Bool.and_eq_true, List.all_eq_true, List.mem_range] at h
  have hi' := h.1 i hi
  refine ⟨hi'.1, ?_⟩
  intro j hj
  have := hi'.2 j hj
  refine ⟨by simpa using this.1, ?_⟩
  cases hs : g.inSrc i j with
  | none => rw [hs] at this; simp at this
  | some s => rw [hs] at this; exact ⟨s, rfl, this.2⟩

theorem wf_link (h : g.wf = true) (L : Link) (hL : L ∈ g.links) :
    (∀ i j, L.dst = .inp i j → i < g.insts.length ∧ j < g.nIn i) ∧
    (∀ i p, L.src = .out i p → i < g.insts.length ∧ p < g.nOut i) := by
  unfold Graph.wf at h
  simp only [Bool.and_eq_true, List.all_eq_true] at h
  have := h.2 L hL
  constructor
  · intro i j e; rw [e] at this; simpa using this.1
  · intro i p e; rw [e] at this; simpa using this.2

theorem inSrc_mem (i j : Nat) (s : Src) (h : g.inSrc i j = some s) :
    ∃ L ∈ g.links, L.dst = .inp i j ∧ L.src = s := by
  unfold Graph.inSrc at h
  cases hf : g.links.find? (fun L => L.dst == Dst.inp i j) with
  | none => rw [hf] at h; cases h
  | some L =>
    rw [hf] at h
    simp only [Option.map_some, Option.some.injEq] at h
    refine ⟨L, List.mem_of_find?_eq_some hf, ?_, h⟩
    have := List.find?_some hf
    simpa using this

theorem hasIntCons_of_inSrc (l : List Nat) (i j i' p' : Nat)
    (h : g.inSrc i j = some (.out i' p')) (hil : i ∈ l) : hasIntCons g l (i', p') = true := by
  obtain ⟨L, hL, hd, hs⟩ := inSrc_mem g i j _ h
  unfold hasIntCons
  apply List.any_eq_true.mpr
  refine ⟨L, hL, ?_⟩
  simp [hs, hd, hil]

theorem hasExtCons_of_inSrc (l : List Nat) (i j i' p' : Nat)
    (h : g.inSrc i j = some (.out i' p')) (hil : i ∉ l) : hasExtCons g l (i', p') = true := by
  obtain ⟨L, hL, hd, hs⟩ := inSrc_mem g i j _ h
  unfold hasExtCons
  apply List.any_eq_true.mpr
  refine ⟨L, hL, ?_⟩
  simp [hs, hd, hil]

end wf

theorem filterMap_congr' {α β : Type} (f g : α → Option β) : ∀ (l : List α),
    (∀ x ∈ l, f x = g x) → l.filterMap f = l.filterMap g := by
  intro l; induction l with
  | nil => intro _; rfl
  | cons a as ih =>
    intro h
    simp only [List.filterMap_cons, h a (List.mem_cons_self ..),
      ih (fun x hx => h x (List.mem_cons_of_mem _ hx))]

theorem flatMap_congr' {α β : Type} (f g : α → List β) : ∀ (l : List α),
    (∀ x ∈ l, f x = g x) → l.flatMap f = l.flatMap g := by
  intro l; induction l with
  | nil => intro _; rfl
  | cons a as ih =>
    intro h
    simp only [List.flatMap_cons, h a (List.mem_cons_self ..),
      ih (fun x hx => h x (List.mem_cons_of_mem _ hx))]

theorem range_map_getD (f : Nat → Nat) (n j : Nat) (hj : j < n) :
    ((List.range n).map f).getD j 0 = f j := by
  rw [List.getD_eq_getElem?_getD, List.getElem?_map, List.getElem?_range hj]
  simp

/-- the value instance `i` of the list puts on its output port `p` when `F` gives the outputs of the
    producers inside the list -/
def localOut (g : Graph) (l : List Nat) (inp : Nat → Nat) (F : Nat → Nat → Nat) (i p : Nat) : Nat :=
  ((g.frag i).fn g.w ((List.range (g.nIn i)).map (localIn g l inp F i))).getD p 0

theorem localSol_iff {g : Graph} {l : List Nat} {inp : Nat → Nat} {F : Nat → Nat → Nat} :
    LocalSol g l inp F ↔ ∀ i ∈ l, ∀ p, p < g.nOut i → F i p = localOut g l inp F i p := Iff.rfl

/-- loop invariant of the section: the temporaries allocated to the outputs of the instances
    already emitted (`pre`) hold those outputs -/
def TempsHold (g : Graph) (l pre : List Nat) (ρ : RegFile) (F : Nat → Nat → Nat) : Prop :=
  ∀ i ∈ pre, ∀ p, p < g.nOut i → ∀ k, tempIdx g l i p = some k → ρ (.t k) = F i p

section block
variable (g : Graph) (l : List Nat) (w : Nat) (inp : Nat → Nat) (i : Nat)

/-- pass 1 of a block: `mov resin, iK` -/
theorem run_loadsIn (st : SecSt) {st' : SecSt} (hnd : (g.frag i).resin.Nodup)
    (hst : runSec w inp (loadsIn g l i) st = st') :
    st'.outs = st.outs ∧ (∀ k, st'.regs (.t k) = st.regs (.t k)) ∧
    ∀ j r, (g.frag i).resin[j]? = some r → st'.regs (.r r) =
      match inPort g l i j with
      | some k => inp k
      | none => st.regs (.r r) := by
  have h := run_moves_keyed w inp _ (fun jr => Reg.r jr.2) (enum (g.frag i).resin) st hst
    (fun jr _ ins h => by obtain ⟨k, -, rfl⟩ := Option.map_eq_some_iff.mp h; exact ⟨_, rfl⟩)
    (fun a ha b hb _ _ e => enum_inj_snd hnd ha hb (Reg.r.inj e))
    (fun _ _ jr _ ins h => by obtain ⟨k, -, rfl⟩ := Option.map_eq_some_iff.mp h; nofun)
  refine ⟨h.1, fun k => h.2.1 (.t k) fun _ _ _ => nofun, fun j r hjr => ?_⟩
  have hmem : (j, r) ∈ enum (g.frag i).resin := (mem_enum _ j r).mpr hjr
  cases hp : inPort g l i j with
  | some k => exact h.2.2 (j, r) hmem _ _ _ (by rw [hp]; rfl) rfl
  | none =>
    refine h.2.1 (.r r) fun a ha hsome e => ?_
    cases enum_inj_snd hnd ha hmem (Reg.r.inj e)
    rw [hp] at hsome
    cases hsome

/-- pass 2 of a block: `mov resin, tK` -/
theorem run_loadsTemp (st : SecSt) {st' : SecSt} (hnd : (g.frag i).resin.Nodup)
    (hst : runSec w inp (loadsTemp g l i) st = st') :
    st'.outs = st.outs ∧ (∀ k, st'.regs (.t k) = st.regs (.t k)) ∧
    (∀ j r, (g.frag i).resin[j]? = some r → ∀ i' p' k, inKind g l i j = .temp i' p' →
      tempIdx g l i' p' = some k → st'.regs (.r r) = st.regs (.t k)) ∧
    (∀ j r, (g.frag i).resin[j]? = some r → (∀ i' p', inKind g l i j ≠ .temp i' p') →
      st'.regs (.r r) = st.regs (.r r)) := by
  have hshape : ∀ (jr : Nat × Nat) ins, (match inKind g l i jr.1 with
      | .temp i' p' => (tempIdx g l i' p').map fun k => SInstr.movReg (.r jr.2) (.t k)
      | _ => none) = some ins → ∃ k, ins = .movReg (.r jr.2) (.t k) := by
    intro jr ins h
    split at h
    · obtain ⟨k, -, rfl⟩ := Option.map_eq_some_iff.mp h; exact ⟨k, rfl⟩
    · cases h
  have h := run_moves_keyed w inp _ (fun jr => Reg.r jr.2) (enum (g.frag i).resin) st hst
    (fun jr _ ins h => by obtain ⟨k, rfl⟩ := hshape jr ins h; exact ⟨_, rfl⟩)
    (fun a ha b hb _ _ e => enum_inj_snd hnd ha hb (Reg.r.inj e))
    (fun _ _ jr _ ins h => by obtain ⟨k, rfl⟩ := hshape jr ins h; nofun)
  refine ⟨h.1, fun k => h.2.1 (.t k) fun _ _ _ => nofun, fun j r hjr i' p' k hk ht => ?_,
    fun j r hjr hk => ?_⟩
  · exact h.2.2 (j, r) ((mem_enum _ j r).mpr hjr) _ _ _ (by simp only [hk, ht]; rfl) rfl
  · refine h.2.1 (.r r) fun a ha hsome e => ?_
    cases enum_inj_snd hnd ha ((mem_enum _ j r).mpr hjr) (Reg.r.inj e)
    split at hsome
    · rename_i i' p' e'; exact hk i' p' e'
    · cases hsome

theorem run_loads (hwf : g.wf = true) (F : Nat → Nat → Nat) (pre : List Nat) (st : SecSt) {st' : SecSt}
    (hi : i < g.insts.length) (hil : i ∈ l)
    (htopo : ∀ j i' p', g.inSrc i j = some (.out i' p') → l.contains i' = true → i' ∈ pre)
    (hinv : TempsHold g l pre st.regs F)
    (hst : runSec g.w inp (loadsIn g l i ++ loadsTemp g l i) st = st') :
    st'.outs = st.outs ∧ (∀ k, st'.regs (.t k) = st.regs (.t k)) ∧
    ∀ j r, (g.frag i).resin[j]? = some r → st'.regs (.r r) = localIn g l inp F i j := by
  obtain ⟨hwb, hins⟩ := wf_inst g hwf i hi
  have hnd : (g.frag i).resin.Nodup := by
    unfold Fragment.wb at hwb
    simp only [Bool.and_eq_true, decide_eq_true_eq] at hwb
    exact hwb.1
  rw [runSec_append] at hst
  generalize hst1 : runSec g.w inp (loadsIn g l i) st = st1 at hst
  obtain ⟨o1, t1, r1⟩ := run_loadsIn g l g.w inp i st hnd hst1
  obtain ⟨o2, t2, r2t, r2n⟩ := run_loadsTemp g l g.w inp i st1 hnd hst
  refine ⟨o2.trans o1, fun k => (t2 k).trans (t1 k), fun j r hjr => ?_⟩
  obtain ⟨_, s, hs, hsok⟩ := hins j (List.getElem?_eq_some_iff.mp hjr).1
  unfold localIn
  -- a port fed from outside the list was loaded by pass 1 and left alone by pass 2
  have hport : inKind g l i j = .port → st'.regs (.r r) =
      match inKind g l i j with
      | .none => 0
      | .port => inp (inIdx g l i j)
      | .temp i' p' => F i' p' := by
    intro hk
    have hp : inPort g l i j = some (inIdx g l i j) := by simp [inPort, isPortIn, hk]
    rw [r2n j r hjr (fun i' p' e => by rw [hk] at e; cases e), r1 j r hjr, hp, hk]
  cases s with
  | ext k0 => exact hport (by simp [inKind, hs])
  | out i' p' =>
    by_cases hc : l.contains i' = true
    · have hk : inKind g l i j = .temp i' p' := by simp [inKind, hs, show i' ∈ l by simpa using hc]
      have ht : tempIdx g l i' p' = some (tmpIdx g l i' p') := by
        simp [tempIdx, hasIntCons_of_inSrc g l i j i' p' hs hil]
      rw [hk, r2t j r hjr i' p' _ hk ht, t1]
      simp only [Graph.srcOk, Bool.and_eq_true, decide_eq_true_eq] at hsok
      exact hinv i' (htopo j i' p' hs hc) p' hsok.2 _ ht
    · exact hport (by simp [inKind, hs, show i' ∉ l by simpa using hc])

/-- pass 3 of a block: `mov oK, resout` -/
theorem run_storesOut (items : List (Nat × Nat)) (st : SecSt) {st' : SecSt}
    (hst : runSec w inp (storesOutL g l i items) st = st') :
    st'.regs = st.regs ∧
    st'.outs = st.outs ++ items.filterMap fun pr => (outPort g l i pr.1).map fun k => (k, st.regs (.r pr.2)) := by
  subst hst
  induction items generalizing st with
  | nil => simp [storesOutL, runSec]
  | cons a rest ih =>
    unfold storesOutL at ih ⊢
    cases ho : outPort g l i a.1 with
    | none =>
      simp only [List.filterMap_cons, ho, Option.map_none]
      exact @ih st
    | some k =>
      have h := @ih (SInstr.step w inp st (.movOut k (.r a.2)))
      simp only [List.filterMap_cons, ho, Option.map_some, runSec, List.foldl_cons] at h ⊢
      refine ⟨h.1, ?_⟩
      rw [h.2]
      simp [SInstr.step]

/-- pass 4 of a block: `mov tK, resout` -/
theorem run_storesTemp (st : SecSt) {st' : SecSt} (hil : i ∈ l)
    (hst : runSec w inp (storesTemp g l i) st = st') :
    st'.outs = st.outs ∧
    (∀ k, (∀ p, p < g.nOut i → tempIdx g l i p ≠ some k) → st'.regs (.t k) = st.regs (.t k)) ∧
    (∀ p r k, (g.frag i).resout[p]? = some r → tempIdx g l i p = some k →
      st'.regs (.t k) = st.regs (.r r)) := by
  have hlt : ∀ {pr : Nat × Nat}, pr ∈ enum (g.frag i).resout → pr.1 < g.nOut i :=
    fun h => (List.getElem?_eq_some_iff.mp ((mem_enum _ _ _).mp h)).1
  have hsome : ∀ {pr : Nat × Nat}, (Option.map (fun k => SInstr.movReg (.t k) (.r pr.2))
      (tempIdx g l i pr.1)).isSome → ∃ k, tempIdx g l i pr.1 = some k :=
    fun h => Option.isSome_iff_exists.mp (Option.isSome_map ▸ h)
  have h := run_moves_keyed w inp _ (fun pr => Reg.t ((tempIdx g l i pr.1).getD 0))
    (enum (g.frag i).resout) st hst
    (fun pr _ ins h => by obtain ⟨k, hk, rfl⟩ := Option.map_eq_some_iff.mp h; exact ⟨_, by rw [hk]; rfl⟩)
    (fun a ha b hb hsa hsb e => by
      obtain ⟨ka, hka⟩ := hsome hsa
      obtain ⟨kb, hkb⟩ := hsome hsb
      rw [hka, hkb] at e
      exact enum_inj_fst ha hb (tempIdx_inj g l i a.1 i b.1 ka hil (hlt ha) hil (hlt hb) hka
        (hkb.trans (congrArg some (Reg.t.inj e).symm))).2)
    (fun _ _ pr _ ins h => by obtain ⟨k, -, rfl⟩ := Option.map_eq_some_iff.mp h; nofun)
  refine ⟨h.1, fun k hk => h.2.1 (.t k) fun pr hpr hs e => ?_, fun p r k hr hk =>
    h.2.2 (p, r) ((mem_enum _ p r).mpr hr) _ _ _ (by rw [hk]; rfl) rfl⟩
  obtain ⟨k', hk'⟩ := hsome hs
  rw [hk'] at e
  exact hk pr.1 (hlt hpr) (hk'.trans (congrArg some (Reg.t.inj e)))

theorem run_block (hwf : g.wf = true) (F : Nat → Nat → Nat) (pre : List Nat) (st : SecSt) {st' : SecSt}
    (hi : i < g.insts.length) (hil : i ∈ l) (hipre : i ∉ pre) (hprel : ∀ x ∈ pre, x ∈ l)
    (htopo : ∀ j i' p', g.inSrc i j = some (.out i' p') → l.contains i' = true → i' ∈ pre)
    (hinv : TempsHold g l pre st.regs F) (hst : runSec g.w inp (block g l i) st = st') :
    st'.outs = st.outs ++ (enum (g.frag i).resout).filterMap (fun pr =>
      (outPort g l i pr.1).map fun k => (k, localOut g l inp F i pr.1)) ∧
    TempsHold g l pre st'.regs F ∧
    (∀ p, p < g.nOut i → ∀ k, tempIdx g l i p = some k → st'.regs (.t k) = localOut g l inp F i p) := by
  unfold block at hst
  rw [runSec_append, runSec_append, runSec_append] at hst
  generalize hst2 : runSec g.w inp (loadsIn g l i ++ loadsTemp g l i) st = st2 at hst
  generalize hst3 : runSec g.w inp ((g.frag i).body.map .op) st2 = st3 at hst
  generalize hst4 : runSec g.w inp (storesOut g l i) st3 = st4 at hst
  obtain ⟨o2, t2, hload⟩ := run_loads g l inp i hwf F pre st hi hil htopo hinv hst2
  obtain ⟨o3, t3, r3⟩ := runSec_body g.w inp (g.frag i).body st2 hst3
  obtain ⟨r4, o4⟩ := run_storesOut g l g.w inp i (enum (g.frag i).resout) st3 hst4
  obtain ⟨o5, t5n, t5⟩ := run_storesTemp g l g.w inp i st4 hil hst
  have hout : ∀ p r, (g.frag i).resout[p]? = some r → st3.regs (.r r) = localOut g l inp F i p := by
    intro p r hpr
    rw [r3 r]
    apply fn_spec g.w (g.frag i) (wf_inst g hwf i hi).1 _ (by simp [Graph.nIn]) _ _ p r hpr
    intro j r' hjr'
    rw [range_map_getD _ _ _ (show j < g.nIn i from (List.getElem?_eq_some_iff.mp hjr').1)]
    exact hload j r' hjr'
  refine ⟨?_, ?_, ?_⟩
  · rw [o5, o4, o3, o2]
    congr 1
    apply filterMap_congr'
    intro pr hpr
    cases ho : outPort g l i pr.1 with
    | none => rfl
    | some k => simp only [Option.map_some]; rw [hout pr.1 pr.2 ((mem_enum _ _ _).mp hpr)]
  · intro i' hi' p' hp' k hk
    rw [t5n k fun p hp hk2 => hipre ((tempIdx_inj g l i p i' p' k hil hp (hprel i' hi') hp' hk2 hk).1 ▸ hi'),
      r4, t3, t2]
    exact hinv i' hi' p' hp' k hk
  · intro p hp k hk
    have hr : (g.frag i).resout[p]? = some (g.frag i).resout[p] := List.getElem?_eq_getElem hp
    rw [t5 p _ k hr hk, r4]
    exact hout p _ hr

end block

def outsOf (g : Graph) (l : List Nat) (F : Nat → Nat → Nat) (is : List Nat) : List (Nat × Nat) :=
  is.flatMap fun i => (enum (g.frag i).resout).filterMap fun pr =>
    (outPort g l i pr.1).map fun k => (k, F i pr.1)

section list
variable (g : Graph) (l : List Nat) (inp : Nat → Nat)

theorem outsOf_self (F : Nat → Nat → Nat) :
    outsOf g l F l = expectedOuts g l F := rfl

theorem localIn_congr (F F' : Nat → Nat → Nat)
    (i j : Nat) (h : ∀ i' p', inKind g l i j = .temp i' p' → F' i' p' = F i' p') :
    localIn g l inp F' i j = localIn g l inp F i j := by
  unfold localIn
  cases hk : inKind g l i j with
  | none => rfl
  | port => rfl
  | temp i' p' => exact h i' p' hk

theorem inKind_temp (i j i' p' : Nat)
    (h : inKind g l i j = .temp i' p') : g.inSrc i j = some (.out i' p') ∧ l.contains i' = true := by
  unfold inKind at h
  cases hs : g.inSrc i j with
  | none => simp [hs] at h
  | some s =>
    cases s with
    | ext k => simp [hs] at h
    | out a b =>
      simp only [hs] at h
      split at h
      · rename_i hc
        simp only [InKind.temp.injEq] at h
        obtain ⟨rfl, rfl⟩ := h
        exact ⟨rfl, hc⟩
      · cases h

theorem localOut_congr (F F' : Nat → Nat → Nat) (i p : Nat)
    (h : ∀ j, localIn g l inp F' i j = localIn g l inp F i j) :
    localOut g l inp F' i p = localOut g l inp F i p := by
  unfold localOut
  rw [List.map_congr_left fun j _ => h j]

theorem listTopoAux_cons (hwf : g.wf = true) {pre suf : List Nat} {i : Nat}
    (h : listTopoAux g l pre (i :: suf) = true) :
    (∀ j i' p', g.inSrc i j = some (.out i' p') → l.contains i' = true → i' ∈ pre) ∧
    listTopoAux g l (pre ++ [i]) suf = true := by
  simp only [listTopoAux, Bool.and_eq_true, List.all_eq_true, List.mem_range] at h
  refine ⟨fun j i' p' hs hc => ?_, h.2⟩
  have hjlt : j < g.nIn i := by
    obtain ⟨L, hL, hd, _⟩ := inSrc_mem g i j _ hs
    exact ((wf_link g hwf L hL).1 i j hd).2
  have := h.1 j hjlt
  rw [hs] at this
  simp only [Bool.or_eq_true, Bool.not_eq_true'] at this
  rcases this with h' | h'
  · rw [h'] at hc; cases hc
  · simpa using h'

theorem extend_sol (F : Nat → Nat → Nat) (pre : List Nat)
    (i : Nat) (hipre : i ∉ pre)
    (hdeps : ∀ x ∈ pre ++ [i], ∀ j i' p', inKind g l x j = .temp i' p' → i' ∈ pre)
    (hsol : ∀ x ∈ pre, ∀ p, p < g.nOut x → F x p = localOut g l inp F x p) :
    ∃ F1 : Nat → Nat → Nat, (∀ p, F1 i p = localOut g l inp F i p) ∧ (∀ x ∈ pre, ∀ p, F1 x p = F x p) ∧
      ∀ x ∈ pre ++ [i], ∀ p, p < g.nOut x → F1 x p = localOut g l inp F1 x p := by
  let F1 : Nat → Nat → Nat := fun i' p' => if i' = i then localOut g l inp F i p' else F i' p'
  have hF1i : ∀ p, F1 i p = localOut g l inp F i p := fun p => if_pos rfl
  have hF1pre : ∀ x ∈ pre, ∀ p, F1 x p = F x p := fun x hx p => if_neg fun (e : x = i) => hipre (e ▸ hx)
  refine ⟨F1, hF1i, hF1pre, fun x hx p hp => ?_⟩
  -- the inputs of `pre ++ [i]` come from `pre`, where `F1` is `F`
  rw [localOut_congr g l inp F F1 x p fun j =>
    localIn_congr g l inp F F1 x j fun i' p' hk => hF1pre i' (hdeps x hx j i' p' hk) p']
  rcases List.mem_append.mp hx with h | h
  · rw [hF1pre x h p]; exact hsol x h p hp
  · cases List.mem_singleton.mp h
    exact hF1i p

/-- the blocks of a suffix `suf` of the list, run after those of `pre`: the solution `F` of the
    equations of `pre` held in the temporaries is extended instance by instance -/
theorem run_blocks (hwf : g.wf = true)
    (hnd : l.Nodup) (hlt : ∀ i ∈ l, i < g.insts.length) :
    ∀ (suf pre : List Nat), pre ++ suf = l → listTopoAux g l pre suf = true →
    ∀ (st : SecSt) (F : Nat → Nat → Nat),
    (∀ x ∈ pre, ∀ j i' p', inKind g l x j = .temp i' p' → i' ∈ pre) →
    TempsHold g l pre st.regs F →
    (∀ i ∈ pre, ∀ p, p < g.nOut i → F i p = localOut g l inp F i p) →
    ∃ F' : Nat → Nat → Nat,
      (∀ i ∈ pre, ∀ p, F' i p = F i p) ∧
      (∀ i ∈ l, ∀ p, p < g.nOut i → F' i p = localOut g l inp F' i p) ∧
      (runSec g.w inp (suf.flatMap (block g l)) st).outs = st.outs ++ outsOf g l F' suf := by
  intro suf
  induction suf with
  | nil =>
    intro pre hpl _ st F _ _ hsol
    refine ⟨F, fun _ _ _ => rfl, ?_, ?_⟩
    · simp only [List.append_nil] at hpl
      subst hpl
      exact hsol
    · simp [runSec, outsOf]
  | cons i suf' ih =>
    intro pre hpl htopo st F hpt hinv hsol
    have hil : i ∈ l := by rw [← hpl]; simp
    have hprel : ∀ x ∈ pre, x ∈ l := by intro x hx; rw [← hpl]; simp [hx]
    have hipre : i ∉ pre := by
      rw [← hpl] at hnd
      exact fun h => (List.nodup_append.mp hnd).2.2 i h i (List.mem_cons_self ..) rfl
    obtain ⟨htopo', htail⟩ := listTopoAux_cons g l hwf htopo
    have hb := run_block g l inp i hwf F pre st (hlt i hil) hil hipre hprel htopo' hinv rfl
    have hdeps : ∀ x ∈ pre ++ [i], ∀ j i' p', inKind g l x j = .temp i' p' → i' ∈ pre := by
      intro x hx j i' p' hk
      rcases List.mem_append.mp hx with h | h
      · exact hpt x h j i' p' hk
      · cases List.mem_singleton.mp h
        obtain ⟨hs, hc⟩ := inKind_temp g l i j i' p' hk
        exact htopo' j i' p' hs hc
    obtain ⟨F1, hF1i, hF1pre, hsol'⟩ := extend_sol g l inp F pre i hipre hdeps hsol
    have hinv' : TempsHold g l (pre ++ [i]) (runSec g.w inp (block g l i) st).regs F1 := by
      intro i' hi' p' hp' k hk
      rcases List.mem_append.mp hi' with h | h
      · rw [hF1pre i' h p']; exact hb.2.1 i' h p' hp' k hk
      · cases List.mem_singleton.mp h
        rw [hb.2.2 p' hp' k hk, hF1i]
    obtain ⟨F', hag, hsolF', houts⟩ := ih (pre ++ [i]) (by rw [← hpl]; simp) htail
      (runSec g.w inp (block g l i) st) F1
      (fun x hx j i' p' hk => List.mem_append_left _ (hdeps x hx j i' p' hk)) hinv' hsol'
    refine ⟨F', ?_, hsolF', ?_⟩
    · intro x hx p
      rw [hag x (List.mem_append_left _ hx) p, hF1pre x hx p]
    · simp only [List.flatMap_cons, runSec_append]
      rw [houts, hb.1]
      simp only [outsOf, List.flatMap_cons, List.append_assoc]
      congr 2
      apply filterMap_congr'
      intro pr _
      rw [hag i (by simp) pr.1, hF1i]

theorem collapse_seq_sym (hwf : g.wf = true)
    (hnd : l.Nodup) (hlt : ∀ i ∈ l, i < g.insts.length) (htopo : listTopo g l = true)
    (ρ : RegFile) :
    ∃ F, LocalSol g l inp F ∧
      (runSec g.w inp (secSym g l) ⟨ρ, []⟩).outs = expectedOuts g l F := by
  obtain ⟨F, _, hsol, houts⟩ := run_blocks g l inp hwf hnd hlt l [] rfl htopo ⟨ρ, []⟩ (fun _ _ => 0)
    (by intro x hx; cases hx) (by intro x hx; cases hx) (by intro x hx; cases hx)
  refine ⟨F, localSol_iff.mpr hsol, ?_⟩
  unfold secSym
  rw [runSec_append]
  simp only [runSec, List.foldl_cons, List.foldl_nil, SInstr.step] at houts ⊢
  rw [houts]
  exact (List.nil_append _).trans (outsOf_self g l F)


theorem collapse_seq_res (hwf : g.wf = true)
    (hnd : l.Nodup) (hlt : ∀ i ∈ l, i < g.insts.length) (htopo : listTopo g l = true)
    (ρ : RegFile) :
    ∃ F, LocalSol g l inp F ∧
      (runSec g.w inp (secRes g l) ⟨ρ, []⟩).outs = expectedOuts g l F := by
  rw [secRes_outs]
  exact collapse_seq_sym g l inp hwf hnd hlt htopo _

end list

section dataflow
variable (g : Graph) (inputs : List Nat)

theorem val_ext (f k : Nat) :
    val g inputs f (.ext k) = inputs.getD k 0 := by
  cases f <;> rfl

/-- instance `i` reads the BM inputs and lower instances only: two valuations of the sources that
    agree there give it the same input vector -/
theorem inputs_congr (hwf : g.wf = true) {i : Nat} (hi : i < g.insts.length)
    (a b : Src → Nat) (hext : ∀ k, a (.ext k) = b (.ext k))
    (hlow : ∀ i' p', i' < i → p' < g.nOut i' → a (.out i' p') = b (.out i' p')) :
    (List.range (g.nIn i)).map (fun j => match g.inSrc i j with | some s => a s | none => 0) =
    (List.range (g.nIn i)).map (fun j => match g.inSrc i j with | some s => b s | none => 0) := by
  apply List.map_congr_left
  intro j hj
  obtain ⟨_, s, hs, hok⟩ := (wf_inst g hwf i hi).2 j (List.mem_range.mp hj)
  simp only [hs]
  cases s with
  | ext k => exact hext k
  | out i' p' =>
    simp only [Graph.srcOk, Bool.and_eq_true, decide_eq_true_eq] at hok
    exact hlow i' p' hok.1 hok.2

theorem val_fuel (hwf : g.wf = true) :
    ∀ i, i < g.insts.length → ∀ f1 f2 p, i < f1 → i < f2 →
      val g inputs f1 (.out i p) = val g inputs f2 (.out i p) := by
  intro i
  induction i using Nat.strongRecOn with
  | _ i ih =>
    intro hi f1 f2 p h1 h2
    obtain ⟨a, rfl⟩ := Nat.exists_eq_add_one_of_ne_zero (Nat.ne_of_gt (Nat.zero_lt_of_lt h1))
    obtain ⟨b, rfl⟩ := Nat.exists_eq_add_one_of_ne_zero (Nat.ne_of_gt (Nat.zero_lt_of_lt h2))
    simp only [val]
    congr 2
    exact inputs_congr g hwf hi (val g inputs a) (val g inputs b) (fun k => by rw [val_ext, val_ext])
      fun i' p' h _ => ih i' h (Nat.lt_trans h hi) a b p'
        (Nat.lt_of_lt_of_le h (Nat.le_of_lt_succ h1)) (Nat.lt_of_lt_of_le h (Nat.le_of_lt_succ h2))

theorem eval_solution (hwf : g.wf = true) :
    IsSolution g inputs (evalPort g inputs) := by
  intro i hi p _
  unfold evalPort
  obtain ⟨a, ha⟩ := Nat.exists_eq_add_one_of_ne_zero (Nat.ne_of_gt (Nat.zero_lt_of_lt hi))
  rw [ha]
  simp only [val]
  congr 2
  exact inputs_congr g hwf hi (val g inputs a) (srcValV inputs fun i p => val g inputs (a + 1) (.out i p))
    (fun k => val_ext g inputs a k)
    fun i' p' h _ =>
      have hia : i' < a := Nat.lt_of_lt_of_le h (Nat.le_of_lt_succ (Nat.lt_of_lt_of_eq hi ha))
      val_fuel g inputs hwf i' (Nat.lt_trans h hi) a (a + 1) p' hia (Nat.lt_succ_of_lt hia)

theorem solution_unique (hwf : g.wf = true)
    (V V' : Nat → Nat → Nat) (hV : IsSolution g inputs V) (hV' : IsSolution g inputs V') :
    ∀ i, i < g.insts.length → ∀ p, p < g.nOut i → V i p = V' i p := by
  intro i
  induction i using Nat.strongRecOn with
  | _ i ih =>
    intro hi p hp
    rw [hV i hi p hp, hV' i hi p hp]
    congr 2
    exact inputs_congr g hwf hi (srcValV inputs V) (srcValV inputs V') (fun _ => rfl)
      fun i' p' h hp' => ih i' h (Nat.lt_trans h hi) p' hp'

end dataflow

theorem mem_listOf {pt : Part} {c i : Nat} : i ∈ listOf pt c ↔ ∃ h : c < pt.length, i ∈ pt[c].list := by
  unfold listOf
  by_cases h : c < pt.length
  · simp [h]
  · simp [h]

theorem cpOf_some (pt : Part) (i c : Nat) (h : cpOf pt i = some c) :
    c < pt.length ∧ i ∈ listOf pt c := by
  obtain ⟨hc, hp, _⟩ := List.findIdx?_eq_some_iff_getElem.mp h
  exact ⟨hc, mem_listOf.mpr ⟨hc, by simpa using hp⟩⟩

theorem listOf_unique (pt : Part) (hnd : (pt.flatMap (·.list)).Nodup) {c c' i : Nat}
    (h : i ∈ listOf pt c) (h' : i ∈ listOf pt c') : c = c' := by
  obtain ⟨hc, hi⟩ := mem_listOf.mp h
  obtain ⟨hc', hi'⟩ := mem_listOf.mp h'
  have hp := List.pairwise_iff_getElem.mp (List.pairwise_flatMap.mp hnd).2
  rcases Nat.lt_trichotomy c c' with hlt | heq | hgt
  · exact absurd rfl (hp c c' hc hc' hlt i hi i hi')
  · exact heq
  · exact absurd rfl (hp c' c hc' hc hgt i hi' i hi)

theorem listOf_nodup (pt : Part) (hnd : (pt.flatMap (·.list)).Nodup) (c : Nat) :
    (listOf pt c).Nodup := by
  unfold listOf
  cases hx : pt[c]? with
  | none => exact List.nodup_nil
  | some y => exact (List.pairwise_flatMap.mp hnd).1 y (List.mem_of_getElem? hx)

theorem cpOf_of_mem (pt : Part) (hnd : (pt.flatMap (·.list)).Nodup) (i c : Nat)
    (h : i ∈ listOf pt c) : cpOf pt i = some c := by
  obtain ⟨hc, hi⟩ := mem_listOf.mp h
  cases hf : cpOf pt i with
  | none =>
    exact absurd hi (by simpa using List.findIdx?_eq_none_iff.mp hf pt[c] (List.getElem_mem hc))
  | some c' => rw [listOf_unique pt hnd (cpOf_some pt i c' hf).2 h]

/-- `Part.ok` read as propositions about `cpOf` and `listOf` -/
structure PartOk (g : Graph) (pt : Part) : Prop where
  nodup : (pt.flatMap (·.list)).Nodup
  cover : ∀ i, i < g.insts.length → ∃ c, cpOf pt i = some c
  bound : ∀ c i, i ∈ listOf pt c → i < g.insts.length
  topo : ∀ c, c < pt.length → listTopo g (listOf pt c) = true

theorem partOk_of (g : Graph) (pt : Part) (h : Part.ok g pt = true) : PartOk g pt := by
  unfold Part.ok at h
  simp only [Bool.and_eq_true, decide_eq_true_eq, List.all_eq_true, List.mem_range] at h
  obtain ⟨⟨⟨hnd, hcov⟩, hb⟩, ht⟩ := h
  refine ⟨hnd, ?_, ?_, ?_⟩
  · intro i hi
    obtain ⟨y, hy, hiy⟩ := List.mem_flatMap.mp (by simpa using hcov i hi)
    obtain ⟨c, hc, rfl⟩ := List.getElem_of_mem hy
    exact ⟨c, cpOf_of_mem pt hnd i c (mem_listOf.mpr ⟨hc, hiy⟩)⟩
  · intro c i hc
    obtain ⟨h, hi⟩ := mem_listOf.mp hc
    simpa using hb i (List.mem_flatMap.mpr ⟨pt[c], List.getElem_mem h, hi⟩)
  · intro c hc
    have := ht pt[c] (List.getElem_mem hc)
    unfold listOf
    rw [List.getElem?_eq_getElem hc]
    simpa using this

theorem mem_expectedOuts (g : Graph) (l : List Nat) (F : Nat → Nat → Nat) (i p k : Nat)
    (hi : i ∈ l) (hp : p < g.nOut i) (hk : outPort g l i p = some k) :
    (k, F i p) ∈ expectedOuts g l F := by
  unfold expectedOuts
  apply List.mem_flatMap.mpr
  refine ⟨i, hi, ?_⟩
  apply List.mem_filterMap.mpr
  have hp' : p < (g.frag i).resout.length := hp
  refine ⟨(p, (g.frag i).resout[p]), (mem_enum _ _ _).mpr (List.getElem?_eq_getElem hp'), ?_⟩
  simp [hk]

theorem mem_bonds (g : Graph) (pt : Part) (L : Link) (a b : End) (hL : L ∈ g.links)
    (hint : L.internal pt = false) (ha : srcEnd g pt L.src = some a) (hb : dstEnd g pt L.dst = some b) :
    (a, b) ∈ bonds g pt := by
  unfold bonds
  apply List.mem_filterMap.mpr
  refine ⟨L, hL, ?_⟩
  simp [hint, ha, hb]

theorem hasExtCons_of_link_ext (g : Graph) (l : List Nat) (L : Link) (i p k : Nat)
    (hL : L ∈ g.links) (hs : L.src = .out i p) (hd : L.dst = .ext k) : hasExtCons g l (i, p) = true := by
  unfold hasExtCons
  apply List.any_eq_true.mpr
  exact ⟨L, hL, by simp [hs, hd]⟩

section glue
variable (g : Graph) (pt : Part) (inputs : List Nat) (σ : End → Nat)

theorem glue_input
    (hwf : g.wf = true) (hok : PartOk g pt) (hc : Consistent g pt inputs σ)
    (Fc : Nat → Nat → Nat → Nat) (V : Nat → Nat → Nat)
    (hV : ∀ i c p, cpOf pt i = some c → V i p = Fc c i p)
    (hport : ∀ i p c k, cpOf pt i = some c → p < g.nOut i →
      outPort g (listOf pt c) i p = some k → σ (.cpOut c k) = V i p)
    {i c j : Nat} (hi : i < g.insts.length) (hcp : cpOf pt i = some c) (hj : j < g.nIn i) :
    localIn g (listOf pt c) (fun k => σ (.cpIn c k)) (Fc c) i j = inValV g inputs V i j := by
  have him := (cpOf_some pt i c hcp).2
  obtain ⟨_, s, hs, hsok⟩ := (wf_inst g hwf i hi).2 j hj
  obtain ⟨L, hL, hd, hsrc⟩ := inSrc_mem g i j s hs
  have hR : inValV g inputs V i j = srcValV inputs V s := by simp only [inValV, hs]
  rw [hR]
  -- a port fed over a bond carries the value at the bond's source end
  have hbond : ∀ a, inKind g (listOf pt c) i j = .port → L.internal pt = false →
      srcEnd g pt L.src = some a →
      localIn g (listOf pt c) (fun k => σ (.cpIn c k)) (Fc c) i j = σ a := by
    intro a hk hint ha
    have hb := mem_bonds g pt L a _ hL hint ha
      (show dstEnd g pt L.dst = some (.cpIn c (inIdx g (listOf pt c) i j)) by
        simp [hd, dstEnd, hcp, inPort, isPortIn, hk])
    unfold localIn
    rw [hk]
    exact hc.bond _ hb
  cases s with
  | ext k0 =>
    rw [hbond (.bmIn k0) (by simp [inKind, hs]) (by simp [Link.internal, hsrc]) (by simp [hsrc, srcEnd])]
    exact hc.inp k0
  | out i' p' =>
    simp only [Graph.srcOk, Bool.and_eq_true, decide_eq_true_eq] at hsok
    have hi' : i' < g.insts.length := by omega
    obtain ⟨c', hcp'⟩ := hok.cover i' hi'
    obtain ⟨hcl', him'⟩ := cpOf_some pt i' c' hcp'
    by_cases hin : i' ∈ listOf pt c
    · have hk : inKind g (listOf pt c) i j = .temp i' p' := by simp [inKind, hs, hin]
      unfold localIn
      rw [hk]
      exact (hV i' c p' (cpOf_of_mem pt hok.nodup i' c hin)).symm
    · have hne : c' ≠ c := fun e => hin (e ▸ him')
      have hinot : i ∉ listOf pt c' := fun h => hne (listOf_unique pt hok.nodup h him)
      have hext := hasExtCons_of_inSrc g (listOf pt c') i j i' p' hs hinot
      have hop : outPort g (listOf pt c') i' p' = some (outIdx g (listOf pt c') i' p') := by
        simp [outPort, hext]
      rw [hbond (.cpOut c' (outIdx g (listOf pt c') i' p')) (by simp [inKind, hs, hin])
        (by simp [Link.internal, hsrc, hd, hcp, hcp', hne]) (by simp [hsrc, srcEnd, hcp', hop])]
      exact hport i' p' c' _ hcp' hsok.2 hop

/-- the per-CP dataflow solutions glue to a solution of the whole graph, and every CP output port
    carries the value of the instance output it was allocated for -/
theorem glue
    (hwf : g.wf = true) (hok : PartOk g pt) (hc : Consistent g pt inputs σ) :
    ∃ V, IsSolution g inputs V ∧
      ∀ i p c k, cpOf pt i = some c → p < g.nOut i →
        outPort g (listOf pt c) i p = some k → σ (.cpOut c k) = V i p := by
  -- one local solution per CP (collapse_seq), chosen for the all-zero register file
  have hex : ∀ c, ∃ F : Nat → Nat → Nat, c < pt.length →
      LocalSol g (listOf pt c) (fun k => σ (.cpIn c k)) F ∧
      (runSec g.w (fun k => σ (.cpIn c k)) (secRes g (listOf pt c)) ⟨fun _ => 0, []⟩).outs =
        expectedOuts g (listOf pt c) F := by
    intro c
    by_cases hcl : c < pt.length
    · obtain ⟨F, h1, h2⟩ := collapse_seq_res g (listOf pt c) (fun k => σ (.cpIn c k)) hwf
        (listOf_nodup pt hok.nodup c) (fun i hi => hok.bound c i hi) (hok.topo c hcl) (fun _ => 0)
      exact ⟨F, fun _ => ⟨h1, h2⟩⟩
    · exact ⟨fun _ _ => 0, fun h => absurd h hcl⟩
  let Fc : Nat → Nat → Nat → Nat := fun c => Classical.choose (hex c)
  have hFc : ∀ c, c < pt.length →
      LocalSol g (listOf pt c) (fun k => σ (.cpIn c k)) (Fc c) ∧
      (runSec g.w (fun k => σ (.cpIn c k)) (secRes g (listOf pt c)) ⟨fun _ => 0, []⟩).outs =
        expectedOuts g (listOf pt c) (Fc c) := fun c => Classical.choose_spec (hex c)
  let V : Nat → Nat → Nat := fun i p => match cpOf pt i with
    | some c => Fc c i p
    | none => 0
  have hV : ∀ i c p, cpOf pt i = some c → V i p = Fc c i p := by
    intro i c p h; simp [V, h]
  have hport : ∀ i p c k, cpOf pt i = some c → p < g.nOut i →
      outPort g (listOf pt c) i p = some k → σ (.cpOut c k) = V i p := by
    intro i p c k hcp hp hk
    obtain ⟨hcl, him⟩ := cpOf_some pt i c hcp
    have hm := mem_expectedOuts g (listOf pt c) (Fc c) i p k him hp hk
    rw [← (hFc c hcl).2] at hm
    have := hc.sec c hcl (fun _ => 0) _ hm
    rw [hV i c p hcp]
    exact this
  refine ⟨V, ?_, hport⟩
  intro i hi p hp
  obtain ⟨c, hcp⟩ := hok.cover i hi
  obtain ⟨hcl, him⟩ := cpOf_some pt i c hcp
  rw [hV i c p hcp, (hFc c hcl).1 i him p hp]
  congr 2
  apply List.map_congr_left
  intro j hj
  exact glue_input g pt inputs σ hwf hok hc Fc V hV hport hi hcp (List.mem_range.mp hj)

end glue

end BMV.Frag
