/-
  Helper lemmas for the shared-object model (C18): splitting the per-processor connection list of a
  queue / stack into its sender and receiver parts.
-/
import BMV.So
namespace BMV.So

def sendSlots (a : Att) : List Slot := if a.caps.send then senderRoles.map fun r => ⟨a.proc, r⟩ else []
def recvSlots (a : Att) : List Slot := if a.caps.recv then receiverRoles.map fun r => ⟨a.proc, r⟩ else []

theorem perProc_queue (k : Kind) (hk : k = .queue ∨ k = .stack) (a : Att) :
    (perProcHeader k a.caps).map (fun r => (⟨a.proc, r⟩ : Slot)) = sendSlots a ++ recvSlots a := by
  rcases a with ⟨p, i, ⟨s, r⟩⟩
  rcases hk with rfl | rfl <;> cases s <;> cases r <;>
    simp [perProcHeader, sendSlots, recvSlots, senderRoles, receiverRoles]

theorem no_send_nil : ∀ (l : List Att), (l.all fun b => !b.caps.send) = true → l.flatMap sendSlots = []
  | [], _ => rfl
  | b :: rest, h => by
    simp only [List.all_cons, Bool.and_eq_true, Bool.not_eq_true'] at h
    simp only [List.flatMap_cons, no_send_nil rest h.2, List.append_nil]
    unfold sendSlots; simp [h.1]

theorem split_flatMap : ∀ (l : List Att), sendersFirst l = true →
    l.flatMap (fun a => sendSlots a ++ recvSlots a) = l.flatMap sendSlots ++ l.flatMap recvSlots
  | [], _ => rfl
  | a :: rest, h => by
    unfold sendersFirst at h
    simp only [Bool.and_eq_true, Bool.or_eq_true, Bool.not_eq_true'] at h
    simp only [List.flatMap_cons, split_flatMap rest h.2]
    rcases h.1 with hr | hs
    · have : recvSlots a = [] := by unfold recvSlots; simp [hr]
      simp [this]
    · simp [no_send_nil rest hs]

theorem send_head : ∀ (l : List Att), l.flatMap sendSlots = [] ∨ ∃ p t, l.flatMap sendSlots = ⟨p, "senderData"⟩ :: t
  | [] => Or.inl rfl
  | b :: rest => by
    simp only [List.flatMap_cons]
    by_cases hs : b.caps.send = true
    · right
      refine ⟨b.proc, [⟨b.proc, "senderWrite"⟩, ⟨b.proc, "senderAck"⟩] ++ rest.flatMap sendSlots, ?_⟩
      unfold sendSlots senderRoles
      simp [hs]
    · have : sendSlots b = [] := by unfold sendSlots; simp [hs]
      rw [this, List.nil_append]
      exact send_head rest

theorem send_nil_all : ∀ (l : List Att), l.flatMap sendSlots = [] → (l.all fun b => !b.caps.send) = true
  | [], _ => rfl
  | b :: rest, h => by
    simp only [List.flatMap_cons, List.append_eq_nil_iff] at h
    simp only [List.all_cons, Bool.and_eq_true, Bool.not_eq_true']
    refine ⟨?_, send_nil_all rest h.2⟩
    cases hb : b.caps.send with
    | false => rfl
    | true => exfalso; have := h.1; unfold sendSlots senderRoles at this; simp [hb] at this

theorem split_flatMap_conv : ∀ (l : List Att),
    l.flatMap (fun a => sendSlots a ++ recvSlots a) = l.flatMap sendSlots ++ l.flatMap recvSlots →
    sendersFirst l = true
  | [], _ => rfl
  | a :: rest, h => by
    simp only [List.flatMap_cons, List.append_assoc] at h
    have h' := List.append_cancel_left h
    unfold sendersFirst
    simp only [Bool.and_eq_true, Bool.or_eq_true, Bool.not_eq_true']
    cases hr : a.caps.recv with
    | false =>
      have hR : recvSlots a = [] := by unfold recvSlots; simp [hr]
      rw [hR, List.nil_append, List.nil_append] at h'
      exact ⟨Or.inl rfl, split_flatMap_conv rest h'⟩
    | true =>
      have hR : recvSlots a = ⟨a.proc, "receiverData"⟩ :: [⟨a.proc, "receiverRead"⟩, ⟨a.proc, "receiverAck"⟩] := by
        unfold recvSlots receiverRoles; simp [hr]
      rcases send_head rest with hnil | ⟨p, t, hcons⟩
      · rw [hnil, List.nil_append] at h'
        have h'' := List.append_cancel_left h'
        have : rest.flatMap (fun a => sendSlots a ++ recvSlots a) = rest.flatMap sendSlots ++ rest.flatMap recvSlots := by
          rw [hnil, List.nil_append]; exact h''
        exact ⟨Or.inr (send_nil_all rest hnil), split_flatMap_conv rest this⟩
      · exfalso
        rw [hR, hcons] at h'
        simp at h'

theorem queue_slots (k : Kind) (hk : k = .queue ∨ k = .stack) (atts : List Att) (hne : atts ≠ []) :
    instSlots k atts = atts.flatMap (fun a => sendSlots a ++ recvSlots a) ++ [⟨0, "empty"⟩, ⟨0, "full"⟩] ∧
    moduleSlots k atts = (atts.flatMap sendSlots ++ atts.flatMap recvSlots) ++ [⟨0, "empty"⟩, ⟨0, "full"⟩] := by
  have hpp : (atts.flatMap fun a => (perProcHeader k a.caps).map fun r => (⟨a.proc, r⟩ : Slot))
      = atts.flatMap (fun a => sendSlots a ++ recvSlots a) := by
    congr 1; funext a; exact perProc_queue k hk a
  have hemp : atts.isEmpty = false := by cases atts <;> simp_all
  unfold instSlots
  rw [hpp, hemp]
  rcases hk with rfl | rfl <;> exact ⟨rfl, rfl⟩

end BMV.So
