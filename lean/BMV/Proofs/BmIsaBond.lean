/-
  C02 helper: one bond of a machine step of the simulator world (`Bm.isaStep`) projects onto one
  step of C04's handshake model `Hs.Isa.step`, the schedule being read off the processors' pcs
  (`isa_bond_projects`), hence every run of a machine projects onto a run of `Hs.Isa`
  (`isa_bond_run_projects`) and inherits C04's invariant.
-/
import BMV.Proofs.BmIsa
import BMV.Proofs.Hs
namespace BMV.Bm
open BMV BMV.Bits BMV.Topology

theorem preIi_linked {t : Topo} (s : BmState) {i j : Nat} {b : Topology.Bond}
    (hl : t.links[i]? = some (some j)) (hb : t.iout[j]? = some b) (hk : b.kind ≠ 0) :
    (preIi t s).iiRegs.getD i 0 = s.ioRegs.getD j 0 ∧ (preIi t s).iiValid.getD i false = s.ioValid.getD j false := by
  unfold preIi mvLinks mvExtIn
  simp only
  rw [getD_map_zipIdx _ _ _ _ _ hl, getD_map_zipIdx _ _ _ _ _ hl]
  simp only
  rw [getD_map_zipIdx _ _ _ _ _ hb, getD_map_zipIdx _ _ _ _ _ hb]
  simp [hk]

theorem preRecvArr_proc {t : Topo} (s : BmState) {i : Nat} {b : Topology.Bond}
    (hb : t.iin[i]? = some b) (hk : b.kind ≠ 1) : (preRecvArr t s).getD i false = s.iiRecv.getD i false := by
  unfold preRecvArr
  rw [getD_map_zipIdx _ _ _ _ _ hb]
  simp [hk]

/-- is the instruction at `pc` an `r2owa` on output `o`? -/
def atR2owa (a : Arch) (prog : List Bits) (pc o : Nat) : Bool :=
  match decode a prog pc with
  | some (op, body) => op == "r2owa" && Isa.field body a.r a.outBits == o
  | none => false

/-- is the instruction at `pc` an `i2rw` on input `k`? -/
def atI2rw (a : Arch) (prog : List Bits) (pc k : Nat) : Bool :=
  match decode a prog pc with
  | some (op, body) => op == "i2rw" && Isa.field body a.r a.inBits == k
  | none => false

/-- a processor's input port `k` as a consumer of C04's model -/
def ConsRel (a : Arch) (prog : List Bits) (k : Nat) (v : VmState) (hc : Hs.Isa.Cons) : Prop :=
  hc.recv = v.inRecv.getD k false ∧ hc.deferred = decide (k ∈ v.deferred) ∧
  (hc.atIO = true → atI2rw a prog v.pc k = true)

theorem getD_of_getElem? {α} {l : List α} {k : Nat} {x d : α} (h : l[k]? = some x) : l.getD k d = x := by
  rw [List.getD_eq_getElem?_getD, h]; rfl

/-- the deferred instruction, on both sides -/
theorem cons_deferred {a : Arch} {prog : List Bits} {k : Nat} {v v1 : VmState} {hc : Hs.Isa.Cons} {V : Bool}
    (hrel : ConsRel a prog k v hc) (hsb : SameButPorts v v1) (hV : v1.inValid[k]? = some V) :
    ConsRel a prog k (Isa.runDeferred v1)
      (if hc.deferred && !V then { hc with recv := false, deferred := false } else hc) := by
  obtain ⟨at0, r0, d0, g0⟩ := hc
  obtain ⟨hrecv, hdef, hat⟩ := hrel
  obtain ⟨o1, o2⟩ := runDeferred_obs v1 k V hV
  rw [hsb.deferred, ← show d0 = _ from hdef] at o1 o2
  rw [hsb.inRecv, ← show r0 = _ from hrecv] at o1
  refine ⟨?_, ?_, fun h => ?_⟩
  · rw [o1]; cases d0 <;> cases V <;> rfl
  · rw [o2]; cases d0 <;> cases V <;> rfl
  · rw [show (Isa.runDeferred v1).pc = v.pc from hsb.pc]
    refine hat ?_
    cases d0 <;> cases V <;> exact h

theorem decode_of_atI2rw {a : Arch} {prog : List Bits} {pc k : Nat} (h : atI2rw a prog pc k = true) :
    ∃ body, decode a prog pc = some ("i2rw", body) ∧ Isa.field body a.r a.inBits = k := by
  unfold atI2rw at h
  cases hd : decode a prog pc with
  | none => rw [hd] at h; cases h
  | some ob =>
    obtain ⟨op, body⟩ := ob
    rw [hd] at h
    obtain ⟨hop, hk⟩ := Bool.and_eq_true_iff.mp h
    exact ⟨body, by rw [eq_of_beq hop], eq_of_beq hk⟩

theorem decode_of_atR2owa {a : Arch} {prog : List Bits} {pc o : Nat} (h : atR2owa a prog pc o = true) :
    ∃ body, decode a prog pc = some ("r2owa", body) ∧ Isa.field body a.r a.outBits = o := by
  unfold atR2owa at h
  cases hd : decode a prog pc with
  | none => rw [hd] at h; cases h
  | some ob =>
    obtain ⟨op, body⟩ := ob
    rw [hd] at h
    obtain ⟨hop, hk⟩ := Bool.and_eq_true_iff.mp h
    exact ⟨body, by rw [eq_of_beq hop], eq_of_beq hk⟩

section busy
variable {a : Arch} {prog : List Bits} {v0 v' : VmState} (hnone : decode a prog v0.pc = none → v' = v0)
  (hsome : ∀ op body, decode a prog v0.pc = some (op, body) → Isa.exec a prog.length op body v0 = some v')
include hnone hsome

theorem inRecv_of_not_atI2rw {k : Nat} (hex : atI2rw a prog v0.pc k = false) :
    v'.inRecv.getD k false = v0.inRecv.getD k false ∧ (k ∈ v'.deferred ↔ k ∈ v0.deferred) := by
  cases hd : decode a prog v0.pc with
  | none => rw [hnone hd]; exact ⟨rfl, Iff.rfl⟩
  | some ob =>
    obtain ⟨op, body⟩ := ob
    have hx := hsome _ _ hd
    by_cases hop : op = "i2rw"
    · subst hop
      refine exec_i2rw_other hx fun e => ?_
      unfold atI2rw at hex
      rw [hd, e] at hex
      simp at hex
    · obtain ⟨h1, h2⟩ := (exec_frame hx).2 hop
      rw [h1, h2]; exact ⟨rfl, Iff.rfl⟩

theorem outValid_of_not_atR2owa {o : Nat} (hex : atR2owa a prog v0.pc o = false) :
    v'.outValid.getD o false = v0.outValid.getD o false := by
  cases hd : decode a prog v0.pc with
  | none => rw [hnone hd]
  | some ob =>
    obtain ⟨op, body⟩ := ob
    have hx := hsome _ _ hd
    by_cases hop : op = "r2owa"
    · subst hop
      refine exec_r2owa_other hx fun e => ?_
      unfold atR2owa at hex
      rw [hd, e] at hex
      simp at hex
    · rw [(exec_frame hx).1 hop]

end busy

/-- the instruction, on both sides: `v0` is the processor after its deferred instructions -/
theorem cons_exec {a : Arch} {prog : List Bits} {k : Nat} {v0 v' : VmState} {c1 : Hs.Isa.Cons} {V : Bool} (d : Nat)
    (hrel : ConsRel a prog k v0 c1) (hV : v0.inValid[k]? = some V) (hlen : k < v0.inRecv.length)
    (hnone : decode a prog v0.pc = none → v' = v0)
    (hsome : ∀ op body, decode a prog v0.pc = some (op, body) → Isa.exec a prog.length op body v0 = some v') :
    ConsRel a prog k v'
      (if c1.atIO || atI2rw a prog v0.pc k then
        if V && c1.recv then { c1 with atIO := true }
        else if V then { c1 with got := c1.got ++ [d], recv := true, deferred := true, atIO := false }
        else { c1 with recv := false, atIO := true }
      else c1) := by
  obtain ⟨at1, r1, d1, g1⟩ := c1
  obtain ⟨hrecv, hdef, hat⟩ := hrel
  cases hex : atI2rw a prog v0.pc k
  · -- busy elsewhere (or halted)
    cases (show at1 = false from Bool.eq_false_iff.mpr fun h => Bool.false_ne_true (hex.symm.trans (hat h)))
    have hkeep := inRecv_of_not_atI2rw hnone hsome hex
    exact ⟨hrecv.trans hkeep.1.symm, hdef.trans (decide_eq_decide.mpr hkeep.2.symm), nofun⟩
  · -- the processor executes its i2rw on this port
    obtain ⟨body, hd, rfl⟩ := decode_of_atI2rw hex
    obtain ⟨e1, e2, e3⟩ := exec_i2rw_port (hsome _ _ hd) hV hlen
    rw [← show d1 = _ from hdef, ← show r1 = _ from hrecv] at e2
    rw [← show r1 = _ from hrecv] at e3
    dsimp only
    rw [Bool.or_true, if_pos rfl]
    cases V <;> cases r1
    · exact ⟨e1.symm, (e2.trans (Bool.or_false _)).symm, fun _ => by rw [e3 rfl]; exact hex⟩
    · exact ⟨e1.symm, (e2.trans (Bool.or_false _)).symm, fun _ => by rw [e3 rfl]; exact hex⟩
    · exact ⟨e1.symm, (e2.trans (Bool.or_true _)).symm, nofun⟩
    · exact ⟨e1.symm, (e2.trans (Bool.or_false _)).symm, fun _ => by rw [e3 rfl]; exact hex⟩

theorem cons_step (a : Arch) (prog : List Bits) (k : Nat) (v v1 v' : VmState) (hc : Hs.Isa.Cons) (V : Bool) (d : Nat)
    (hrel : ConsRel a prog k v hc) (hsb : SameButPorts v v1) (hV : v1.inValid[k]? = some V)
    (hklen : k < v.inRecv.length) (hstep : Isa.step a prog v1 = some v') :
    ConsRel a prog k v' (Hs.Isa.cstep V d (atI2rw a prog v.pc k) hc) := by
  obtain ⟨hnone, hsome⟩ := step_decode hstep
  have h := cons_exec d (cons_deferred hrel hsb hV) hV
    (by rw [(runDeferred_lens v1).inRecv, hsb.inRecv]; exact hklen) hnone hsome
  rw [show (Isa.runDeferred v1).pc = v.pc from hsb.pc] at h
  exact h

/-- a processor's output port `o` as the producer of C04's model, one tick: the valid line, and
    "is at its r2owa".  `hs` is shown the same `received` as the processor, and its schedule says
    whether the processor is at its r2owa on `o`. -/
theorem prod_step (a : Arch) (prog : List Bits) (o : Nat) (v v1 v' : VmState) (hs : Hs.Isa.St) (sch : Hs.Sched)
    (hval : hs.valid = v.outValid.getD o false) (hat : hs.atIO = true → atR2owa a prog v.pc o = true)
    (hp : sch.p = atR2owa a prog v.pc o) (hsb : SameButPorts v v1)
    (hR : v1.outRecv[o]? = some (!hs.cs.isEmpty && hs.cs.all (·.recv))) (holen : o < v.outValid.length)
    (hstep : Isa.step a prog v1 = some v') :
    (Hs.Isa.step hs sch).valid = v'.outValid.getD o false ∧
    ((Hs.Isa.step hs sch).atIO = true → atR2owa a prog v'.pc o = true) := by
  rw [Hs.Isa.step_valid, Hs.Isa.step_atIO, hp]
  generalize (!hs.cs.isEmpty && hs.cs.all (·.recv)) = rIn at hR ⊢
  generalize hs.valid = hsValid at hval ⊢
  generalize hs.atIO = hsAtIO at hat ⊢
  suffices h : v'.outValid.getD o false =
        (if (hsAtIO || atR2owa a prog v.pc o) = true then (if rIn = true then false else true) else hsValid) ∧
      ((if (hsAtIO || atR2owa a prog v.pc o) = true then
          (if (!hsValid && rIn) = true then true else if rIn = true then false else true)
        else hsAtIO) = true → atR2owa a prog v'.pc o = true) from ⟨h.1.symm, h.2⟩
  obtain ⟨hnone, hsome⟩ := step_decode hstep
  have hov0 : (Isa.runDeferred v1).outValid = v.outValid := hsb.outValid
  have hpc0 : (Isa.runDeferred v1).pc = v.pc := hsb.pc
  cases hex : atR2owa a prog v.pc o
  · -- busy elsewhere (or halted)
    cases (show hsAtIO = false from Bool.eq_false_iff.mpr fun h => Bool.false_ne_true (hex.symm.trans (hat h)))
    have hex0 : atR2owa a prog (Isa.runDeferred v1).pc o = false := hpc0.symm ▸ hex
    rw [hval, ← hov0]
    -- `v0` is given: left to unification it is first tried as `v1` (same pc), at the price of
    -- unfolding `Isa.exec`
    exact ⟨outValid_of_not_atR2owa (v0 := Isa.runDeferred v1) hnone hsome hex0, nofun⟩
  · -- the processor executes its r2owa on this port
    have hex0 : atR2owa a prog (Isa.runDeferred v1).pc o = true := hpc0.symm ▸ hex
    obtain ⟨body, hd, rfl⟩ := decode_of_atR2owa hex0
    obtain ⟨e1, e2⟩ := exec_r2owa_port (s := Isa.runDeferred v1) (hsome _ _ hd) (rc := rIn) hR (by rw [hov0]; exact holen)
    rw [hov0, ← hval, hpc0] at e2
    rw [Bool.or_true, if_pos rfl, if_pos rfl]
    cases hsValid <;> cases rIn
    · exact ⟨e1, fun _ => by rw [e2 rfl]; exact hex⟩
    · exact ⟨e1, fun _ => by rw [e2 rfl]; exact hex⟩
    · exact ⟨e1, fun _ => by rw [e2 rfl]; exact hex⟩
    · exact ⟨e1, nofun⟩

/-- the machine is one the tools build: `Props.C02.MachineOk` (below) with its clauses named -/
structure MachineWF (m : Machine) : Prop where
  wf : WF m.topo
  archs : m.archs.length = m.topo.procs.length
  progs : m.progs.length = m.topo.procs.length
  ports : ∀ (p : Nat) (a : Arch), m.archs[p]? = some a → m.topo.procs[p]? = some (a.n, a.m)

end BMV.Bm

namespace BMV.Props.C02
open BMV BMV.Topology BMV.Bm

/-- the machine is one the tools build: well-formed bond graph, one architecture and one program
    per processor with the port counts of the graph -/
def MachineOk (m : Machine) : Prop :=
  WF m.topo ∧ m.archs.length = m.topo.procs.length ∧ m.progs.length = m.topo.procs.length ∧
  ∀ (p : Nat) (a : Arch), m.archs[p]? = some a → m.topo.procs[p]? = some (a.n, a.m)

/-- the property file states its theorems with `MachineOk`, the lemmas of this layer with the
    structure; this is the only place where the two meet -/
theorem machineOk_wf {m : Machine} (h : MachineOk m) : MachineWF m := ⟨h.1, h.2.1, h.2.2.1, h.2.2.2⟩

end BMV.Props.C02

namespace BMV.Bm
open BMV BMV.Bits BMV.Topology

/-- internal output `j` is output `o` of processor `q`, and only processor inputs are bonded to it -/
structure ProcBond (m : Machine) (j q o : Nat) : Prop where
  drv : m.topo.iout[j]? = some ⟨3, q, o⟩
  cons : ∀ i ∈ consumerSlots m.topo.links j, ∃ c k, m.topo.iin[i]? = some ⟨2, c, k⟩

def slotProc (t : Topo) (i : Nat) : Nat := ((t.iin[i]?).map (·.res)).getD 0
def slotPort (t : Topo) (i : Nat) : Nat := ((t.iin[i]?).map (·.ext)).getD 0
def archOf (m : Machine) (p : Nat) : Arch := m.archs.getD p default
def progOf (m : Machine) (p : Nat) : List Bits := m.progs.getD p []
def procOf (s : BmState) (p : Nat) : VmState := s.procs.getD p {}

theorem slot_eq {t : Topo} {i c k : Nat} (h : t.iin[i]? = some ⟨2, c, k⟩) : slotProc t i = c ∧ slotPort t i = k := by
  unfold slotProc slotPort
  rw [h]
  exact ⟨rfl, rfl⟩

/-- the simulator's "consumers of internal output `j`" and the reference network's "reader slots of
    channel `j`" are the same list -/
theorem consumerSlots_eq (t : Topo) (j : Nat) : consumerSlots t.links j = slotsOfChan t j := rfl

theorem mem_consumerSlots {links : List (Option Nat)} {i j : Nat} :
    i ∈ consumerSlots links j ↔ links[i]? = some (some j) := by
  rw [show consumerSlots links j = slotsOfChan { links := links } j from consumerSlots_eq { links := links } j]
  exact mem_slotsOfChan

theorem recvOf_eq (links : List (Option Nat)) (iiRecv : List Bool) (j : Nat) :
    recvOf links iiRecv j =
      (!(consumerSlots links j).isEmpty && (consumerSlots links j).all (fun i => iiRecv.getD i false)) := by
  unfold recvOf
  rw [recvFold_closed, recvsOf_links]
  simp [List.all_map, Function.comp_def]

/-- the invariants of the machine state that the projection needs -/
structure StateOk (m : Machine) (s : BmState) : Prop where
  len : s.procs.length = m.archs.length
  sized : Sized m s
  coh : Coherent m.topo s

theorem proc_of_endpoint {m : Machine} (hm : MachineWF m) {σ : Type} {procs : List σ}
    (hlen : procs.length = m.archs.length) {p : Nat} {nm : Nat × Nat} (hp : m.topo.procs[p]? = some nm) :
    ∃ v a prog, procs[p]? = some v ∧ m.archs[p]? = some a ∧ m.progs[p]? = some prog ∧ nm = (a.n, a.m) := by
  have hlt : p < m.topo.procs.length := (List.getElem?_eq_some_iff.mp hp).1
  have h1 : p < procs.length := by rw [hlen, hm.archs]; exact hlt
  have h2 : p < m.archs.length := by rw [hm.archs]; exact hlt
  have h3 : p < m.progs.length := by rw [hm.progs]; exact hlt
  refine ⟨procs[p], m.archs[p], m.progs[p], List.getElem?_eq_getElem h1, List.getElem?_eq_getElem h2,
    List.getElem?_eq_getElem h3, ?_⟩
  have := hm.ports p _ (List.getElem?_eq_getElem h2)
  rw [hp] at this
  exact Option.some.inj this

theorem out_endpoint {t : Topo} (h : WF t) {j q o : Nat} (hd : t.iout[j]? = some ⟨3, q, o⟩) :
    ∃ nm, t.procs[q]? = some nm ∧ o < nm.2 :=
  ((h.iout_mem _).mp (List.mem_of_getElem? hd)).elim (fun h => nomatch h.1) (·.2)

theorem in_endpoint {t : Topo} (h : WF t) {b : Topology.Bond} (hb : b ∈ t.iin) (hk : b.kind = 2) :
    ∃ nm, t.procs[b.res]? = some nm ∧ b.ext < nm.1 :=
  ((h.iin_mem _).mp hb).elim (fun h => nomatch hk.symm.trans h.1) (·.2)

theorem isaStep_at {m : Machine} (hm : MachineWF m) {s : BmState} {e : EnvIn} {s' : BmState} (hok : StateOk m s)
    (hstep : isaStep m (setEnv s e) = some s') {p : Nat} {nm : Nat × Nat} (hp : m.topo.procs[p]? = some nm) :
    ∃ v1, Isa.step (archOf m p) (progOf m p) v1 = some (procOf s' p) ∧ SameButPorts (procOf s p) v1 ∧
      PortSized (archOf m p) (procOf s p) ∧ nm = ((archOf m p).n, (archOf m p).m) ∧
      (∀ k i, m.topo.iin[i]? = some ⟨2, p, k⟩ → k < (archOf m p).n →
        v1.inValid[k]? = some ((preIi m.topo (setEnv s e)).iiValid.getD i false)) ∧
      (∀ o j, m.topo.iout[j]? = some ⟨3, p, o⟩ → o < (archOf m p).m →
        v1.outRecv[o]? = some (recvOf m.topo.links (preRecvArr m.topo (setEnv s e)) j)) := by
  obtain ⟨v, a, prog, hv, ha, hpr, hnm⟩ := proc_of_endpoint hm hok.len hp
  obtain ⟨a', prog', v1, v', ha', hpr', hst, hv', hsb, hin, hout⟩ := (isaStep_spec hm.wf hstep).2.2 p v hv
  rw [ha] at ha'; cases ha'
  rw [hpr] at hpr'; cases hpr'
  have hz := hok.sized p v a hv ha
  rw [show archOf m p = a from getD_of_getElem? ha, show progOf m p = prog from getD_of_getElem? hpr,
    show procOf s p = v from getD_of_getElem? hv, show procOf s' p = v' from getD_of_getElem? hv']
  exact ⟨v1, hst, hsb, hz, hnm,
    fun k i hi hk => (hin k i hi (by rw [hz.inputs]; exact hk) (by rw [hz.inValid]; exact hk)).2,
    fun o j hj ho => hout o j hj (by rw [hz.outRecv]; exact ho)⟩

theorem valid_seen {t : Topo} {s : BmState} (hco : Coherent t s) (e : EnvIn) {i j q o : Nat}
    (hl : t.links[i]? = some (some j)) (hd : t.iout[j]? = some ⟨3, q, o⟩) :
    (preIi t (setEnv s e)).iiValid.getD i false = (procOf s q).outValid.getD o false :=
  (preIi_linked (setEnv s e) hl hd nofun).2.trans (hco.io j q o hd).2

theorem recv_seen {m : Machine} {j q o : Nat} (hb : ProcBond m j q o) {s : BmState} (hco : Coherent m.topo s)
    (e : EnvIn) :
    recvOf m.topo.links (preRecvArr m.topo (setEnv s e)) j =
      (!(consumerSlots m.topo.links j).isEmpty && (consumerSlots m.topo.links j).all fun i =>
        (procOf s (slotProc m.topo i)).inRecv.getD (slotPort m.topo i) false) := by
  rw [recvOf_eq]
  refine Hs.received_congr rfl fun n i i' hi hi' => ?_
  cases hi.symm.trans hi'
  obtain ⟨c, k, hik⟩ := hb.cons i (List.mem_of_getElem? hi)
  rw [preRecvArr_proc (setEnv s e) hik nofun, (slot_eq hik).1, (slot_eq hik).2]
  exact hco.ii i c k hik

/-- the state of bond `j` in machine state `s`, as a state `hs` of C04's simulator-world model:
    valid line, every consumer's recv line and pending deferred instruction agree; an agent that the
    model holds at its IO instruction really has its pc there -/
def BondRel (m : Machine) (j q o : Nat) (s : BmState) (hs : Hs.Isa.St) : Prop :=
  hs.valid = (procOf s q).outValid.getD o false ∧
  (hs.atIO = true → atR2owa (archOf m q) (progOf m q) (procOf s q).pc o = true) ∧
  hs.cs.length = (consumerSlots m.topo.links j).length ∧
  ∀ (n i : Nat), (consumerSlots m.topo.links j)[n]? = some i →
    ConsRel (archOf m (slotProc m.topo i)) (progOf m (slotProc m.topo i)) (slotPort m.topo i)
      (procOf s (slotProc m.topo i)) (hs.cs.getD n {})

/-- the schedule of one tick, read off the processors' pcs: an agent "wants" the bond when the
    instruction it is about to execute is its handshake instruction on this bond -/
def bondSched (m : Machine) (j q o : Nat) (s : BmState) : Hs.Sched :=
  { p := atR2owa (archOf m q) (progOf m q) (procOf s q).pc o
    c := (consumerSlots m.topo.links j).map fun i =>
      atI2rw (archOf m (slotProc m.topo i)) (progOf m (slotProc m.topo i)) (procOf s (slotProc m.topo i)).pc (slotPort m.topo i) }

/-- **projection of one machine step onto one step of C04's bond model** -/
theorem isa_bond_projects {m : Machine} (hm : MachineWF m) {j q o : Nat} (hb : ProcBond m j q o)
    {s : BmState} {e : EnvIn} {s' : BmState} (hlen : s.procs.length = m.archs.length) (hz : Sized m s)
    (hco : Coherent m.topo s) (hstep : isaStep m (setEnv s e) = some s')
    {hs : Hs.Isa.St} (hrel : BondRel m j q o s hs) :
    BondRel m j q o s' (Hs.Isa.step hs (bondSched m j q o s)) := by
  obtain ⟨hval, hat, hcl, hcons⟩ := hrel
  have hok : StateOk m s := ⟨hlen, hz, hco⟩
  -- the producer: shown the conjunction of the recv lines that `hs` holds
  obtain ⟨nmq, hpq, hoq⟩ := out_endpoint hm.wf hb.drv
  obtain ⟨v1, hst, hsb, hzq, hnm, _, hrcv⟩ := isaStep_at hm hok hstep hpq
  rw [hnm] at hoq
  have hR := hrcv o j hb.drv hoq
  rw [recv_seen hb hco, ← Hs.received_congr hcl fun n x i hx hi => by
    rw [← getD_of_getElem? (d := ({} : Hs.Isa.Cons)) hx]; exact (hcons n i hi).1] at hR
  obtain ⟨p1, p2⟩ := prod_step _ _ o _ v1 _ hs (bondSched m j q o s) hval hat rfl hsb hR
    (by rw [hzq.outValid]; exact hoq) hst
  refine ⟨p1, p2, ?_, fun n i hi => ?_⟩
  · rw [Hs.Isa.step_cs, Hs.length_stepAll]; exact hcl
  · -- a consumer: shown the valid line that `hs` holds
    obtain ⟨c, k, hik⟩ := hb.cons i (List.mem_of_getElem? hi)
    obtain ⟨nmc, hpc, hk⟩ := in_endpoint hm.wf (List.mem_of_getElem? hik) rfl
    obtain ⟨v1, hst, hsb, hzc, hnm, hin, _⟩ := isaStep_at hm hok hstep hpc
    rw [hnm] at hk
    have hV := hin k i hik hk
    rw [valid_seen hco e (mem_consumerSlots.mp (List.mem_of_getElem? hi)) hb.drv, ← hval] at hV
    have hn : n < hs.cs.length := by rw [hcl]; exact (List.getElem?_eq_some_iff.mp hi).1
    have hrel0 := hcons n i hi
    have hget : (Hs.Isa.step hs (bondSched m j q o s)).cs.getD n {} =
        Hs.Isa.cstep hs.valid hs.data
          (atI2rw (archOf m (slotProc m.topo i)) (progOf m (slotProc m.topo i)) (procOf s (slotProc m.topo i)).pc
            (slotPort m.topo i)) (hs.cs.getD n {}) := by
      rw [Hs.Isa.step_cs, Hs.getD_stepAll _ _ _ hn, show (bondSched m j q o s).c.getD n false = _ from
        getD_of_getElem? (by rw [bondSched, List.getElem?_map, hi]; rfl)]
    rw [hget]
    rw [(slot_eq hik).1, (slot_eq hik).2] at hrel0 ⊢
    exact cons_step _ _ k _ v1 _ _ hs.valid hs.data hrel0 hsb hV (by rw [hzc.inRecv]; exact hk) hst

/-- the machine driven by an arbitrary sequence of external stimuli (one per tick) -/
def runStim (m : Machine) : List EnvIn → BmState → Option BmState
  | [], s => some s
  | e :: es, s => (isaStep m (setEnv s e)).bind (runStim m es)

theorem getD_replicate_self {α} (n k : Nat) (d : α) : (List.replicate n d).getD k d = d := by
  rw [List.getD_eq_getElem?_getD, List.getElem?_replicate]
  split <;> rfl

theorem procOf_init (m : Machine) (c k : Nat) :
    (procOf (Bm.init m) c).outputs.getD k 0 = 0 ∧ (procOf (Bm.init m) c).outValid.getD k false = false ∧
    (procOf (Bm.init m) c).inRecv.getD k false = false ∧ (procOf (Bm.init m) c).deferred = [] := by
  have h : procOf (Bm.init m) c = ((m.archs[c]?).map Isa.init).getD {} := by
    show (List.map Isa.init m.archs).getD c {} = _
    rw [List.getD_eq_getElem?_getD, List.getElem?_map]
  rw [h]
  cases m.archs[c]? with
  | none => exact ⟨rfl, rfl, rfl, rfl⟩
  | some a => exact ⟨getD_replicate_self .., getD_replicate_self .., getD_replicate_self .., rfl⟩

theorem init_ok (m : Machine) : StateOk m (Bm.init m) := by
  refine ⟨List.length_map .., fun p v a hv ha => ?_, fun j q o _ => ?_, fun i c k _ => ?_⟩
  · rw [show (Bm.init m).procs[p]? = (m.archs[p]?).map Isa.init from List.getElem?_map .., ha] at hv
    cases hv
    exact ⟨List.length_replicate, List.length_replicate, List.length_replicate, List.length_replicate,
      List.length_replicate, List.length_replicate⟩
  · exact ⟨(getD_replicate_self ..).trans (procOf_init m q o).1.symm,
      (getD_replicate_self ..).trans (procOf_init m q o).2.1.symm⟩
  · exact (getD_replicate_self ..).trans (procOf_init m c k).2.2.1.symm

theorem step_ok {m : Machine} (hm : MachineWF m) {s : BmState} {e : EnvIn} {s' : BmState}
    (hs : isaStep m (setEnv s e) = some s') (h : StateOk m s) : StateOk m s' := by
  obtain ⟨hco, hlen, _⟩ := isaStep_spec hm.wf hs
  exact ⟨by rw [hlen]; exact h.len, isaStep_sized hm.wf hs h.sized, hco⟩

theorem init_rel (m : Machine) (j q o : Nat) :
    BondRel m j q o (Bm.init m) (Hs.Isa.init (consumerSlots m.topo.links j).length) := by
  refine ⟨(procOf_init m q o).2.1.symm, nofun, List.length_replicate, fun n i _ => ?_⟩
  rw [show (Hs.Isa.init _).cs.getD n {} = {} from getD_replicate_self ..]
  refine ⟨(procOf_init m _ _).2.2.1.symm, ?_, nofun⟩
  rw [(procOf_init m _ (slotPort m.topo i)).2.2.2]
  rfl

/-- **every run of a machine, under any external stimulus, projects bond by bond onto a run of
    C04's handshake model** (and keeps the state invariants) -/
theorem isa_bond_run_projects {m : Machine} (hm : MachineWF m) {j q o : Nat} (hb : ProcBond m j q o)
    (es : List EnvIn) (s s' : BmState) (hs : Hs.Isa.St) (hok : StateOk m s) (hrel : BondRel m j q o s hs)
    (hrun : runStim m es s = some s') :
    ∃ schs, schs.length = es.length ∧ StateOk m s' ∧ BondRel m j q o s' (Hs.Isa.run hs schs) := by
  induction es generalizing s hs with
  | nil =>
    simp only [runStim, Option.some.injEq] at hrun
    subst hrun
    exact ⟨[], rfl, hok, hrel⟩
  | cons e es ih =>
    simp only [runStim] at hrun
    cases h1 : isaStep m (setEnv s e) with
    | none => simp [h1] at hrun
    | some s1 =>
      simp only [h1, Option.bind_some] at hrun
      have hrel1 := isa_bond_projects hm hb hok.len hok.sized hok.coh h1 hrel
      obtain ⟨schs, hl, hok', hrel'⟩ := ih s1 _ (step_ok hm h1 hok) hrel1 hrun
      exact ⟨bondSched m j q o s :: schs, by simp [hl], hok', by simpa [Hs.Isa.run] using hrel'⟩

theorem runIsa_is_runStim (m : Machine) (spec : EnvSpec) (n : Nat) (x r : BmState × EnvSt × Bool)
    (h : runIsa m spec n x = some r) : ∃ es, es.length = n ∧ runStim m es x.1 = some r.1 := by
  induction n generalizing x with
  | zero =>
    simp only [runIsa, Option.some.injEq] at h
    subst h
    exact ⟨[], rfl, rfl⟩
  | succ n ih =>
    obtain ⟨s, env, hz⟩ := x
    simp only [runIsa] at h
    split at h
    · cases h
    · rename_i s2 h2
      obtain ⟨es, hl, hr⟩ := ih _ h
      exact ⟨envDrive (envStep spec env (observeIsa s)) :: es, by simp [hl], by simp only [runStim, h2]; exact hr⟩

/-- what C04's invariant says about the *machine's* registers on a processor-to-processor bond, in
    every reachable state: a consumer's deferred `waitRecvI2rw` is pending exactly while its
    `InputsRecv` is up, and while the producer's `OutputsValid` is low the consumers' `InputsRecv`
    are all up or all down (they re-arm together) -/
theorem isa_bond_invariant {m : Machine} (hm : MachineWF m) {j q o : Nat} (hb : ProcBond m j q o)
    (es : List EnvIn) (s' : BmState) (hrun : runStim m es (Bm.init m) = some s') :
    (∀ i ∈ consumerSlots m.topo.links j,
      (slotPort m.topo i ∈ (procOf s' (slotProc m.topo i)).deferred ↔
        (procOf s' (slotProc m.topo i)).inRecv.getD (slotPort m.topo i) false = true)) ∧
    ((procOf s' q).outValid.getD o false = false →
      (∀ i ∈ consumerSlots m.topo.links j, (procOf s' (slotProc m.topo i)).inRecv.getD (slotPort m.topo i) false = true) ∨
      (∀ i ∈ consumerSlots m.topo.links j, (procOf s' (slotProc m.topo i)).inRecv.getD (slotPort m.topo i) false = false)) := by
  obtain ⟨schs, _, _, hrel⟩ := isa_bond_run_projects hm hb es _ s' _ (init_ok m) (init_rel m j q o) hrun
  have hinv := Hs.Isa.inv_run (consumerSlots m.topo.links j).length schs
  generalize Hs.Isa.run (Hs.Isa.init (consumerSlots m.topo.links j).length) schs = hs at hrel hinv
  obtain ⟨hval, _, hcl, hcons⟩ := hrel
  obtain ⟨_, _, hci, hlow⟩ := hinv
  have hc : ∀ i ∈ consumerSlots m.topo.links j, ∃ c ∈ hs.cs,
      c.recv = (procOf s' (slotProc m.topo i)).inRecv.getD (slotPort m.topo i) false ∧
      c.deferred = decide (slotPort m.topo i ∈ (procOf s' (slotProc m.topo i)).deferred) := by
    intro i hi
    obtain ⟨n, hn⟩ := List.mem_iff_getElem?.mp hi
    have hlt : n < hs.cs.length := by rw [hcl]; exact (List.getElem?_eq_some_iff.mp hn).1
    obtain ⟨hr, hd, _⟩ := hcons n i hn
    rw [getD_of_getElem? (List.getElem?_eq_getElem hlt)] at hr hd
    exact ⟨hs.cs[n], List.getElem_mem hlt, hr, hd⟩
  refine ⟨fun i hi => ?_, fun hv => ?_⟩
  · obtain ⟨c, hcm, hr, hd⟩ := hc i hi
    rw [← hr, ← (hci c hcm).1, hd, decide_eq_true_iff]
  · rcases hlow (hval.trans hv) with h | h
    · exact .inl fun i hi => by obtain ⟨c, hcm, hr, _⟩ := hc i hi; rw [← hr]; exact h c hcm
    · exact .inr fun i hi => by obtain ⟨c, hcm, hr, _⟩ := hc i hi; rw [← hr]; exact h c hcm

end BMV.Bm
