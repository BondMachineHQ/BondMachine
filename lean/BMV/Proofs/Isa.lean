/-
  Facts about the simulator model `BMV.Isa` itself, shared by the refinement proof (C01) and the
  validator's soundness proof (C16): what `VM.Step` is on a fetched instruction, what `Simulate`
  can return at all, and `Simulate` of each opcode class as an equation.
-/
import BMV.Isa
import BMV.Proofs.Bits
namespace BMV
open BMV.Bits

theorem ite_ind {α : Sort _} {P : α → Prop} {c : Prop} [Decidable c] {x y : α} (hx : P x) (hy : P y) :
    P (if c then x else y) := by split <;> assumption

namespace Isa

theorem field_lt (body : Bits) (off w : Nat) : field body off w < 2 ^ w := by
  refine Nat.lt_of_lt_of_le (getId_lt _) (Nat.pow_le_pow_right (by omega) ?_)
  rw [List.length_take]; exact Nat.min_le_left _ _

theorem runDeferred_arch (s : VmState) :
    (runDeferred s).pc = s.pc ∧ (runDeferred s).regs = s.regs ∧
    (runDeferred s).outputs = s.outputs ∧ (runDeferred s).inputs = s.inputs ∧
    (runDeferred s).phase = s.phase :=
  ⟨rfl, rfl, rfl, rfl, rfl⟩

/-- `VM.Step` on a fetched and decoded instruction is its `Simulate` -/
theorem step_eq {a : Arch} {prog : List Bits} {s : VmState} {w : Bits} {op : String}
    (hf : prog[s.pc]? = some w) (hd : a.ops[getId (w.take a.opBits)]? = some op) :
    step a prog s = exec a prog.length op (w.drop a.opBits) (runDeferred s) := by
  have hpc : ¬ s.pc > prog.length := by
    have := (List.getElem?_eq_some_iff.mp hf).1; omega
  simp only [step, hpc, if_false, (runDeferred_arch s).1, hf, hd]

theorem stepRom_eq {a : Arch} {prog data : List Bits} {s : VmState} {w : Bits} {op : String}
    (hf : prog[s.pc]? = some w) (hd : a.ops[getId (w.take a.opBits)]? = some op) :
    stepRom a prog data s = execRom a prog data op (w.drop a.opBits) (runDeferred s) := by
  have hpc : ¬ s.pc > prog.length := by
    have := (List.getElem?_eq_some_iff.mp hf).1; omega
  simp only [stepRom, hpc, if_false, (runDeferred_arch s).1, hf, hd]

/-! ### the opcode classes

`exec` (and the `case` of the hardware's main block) tests the opcode name in a fixed order: nop,
rset, unary, binary, pipelined, then j, jz, i2r, r2o, i2rw, r2owa.  For a name of a class the
earlier tests fail; evaluating that over the literal lists is dear, so it is done once per class. -/

/-- the names `exec` tests for the unary and the binary register operations (the hardware model
    calls the same lists `Rtl.unops`, `Rtl.binops`) -/
abbrev unops : List String := ["inc", "dec", "clr"]
abbrev binops : List String := ["add", "mult", "div", "cpy", "and", "or", "xor", "nand", "nor", "xnor", "not", "mod"]

theorem unop_first : ∀ {op}, op ∈ unops → op ≠ "nop" ∧ op ≠ "rset" := by decide +kernel

theorem binop_first : ∀ {op}, op ∈ binops → op ≠ "nop" ∧ op ≠ "rset" ∧ op ∉ unops := by decide +kernel

theorem pipe_first : ∀ {op}, op ∈ pipeOps → op ≠ "nop" ∧ op ≠ "rset" ∧ op ∉ unops ∧ op ∉ binops := by
  decide +kernel

section equations
variable (a : Arch) (n : Nat) (op : String) (body : Bits) (s : VmState)

theorem exec_nop : exec a n "nop" body s = some { s with pc := s.pc + 1 } := by
  unfold exec; exact if_pos rfl

theorem exec_rset : exec a n "rset" body s =
    if a.rsize ≤ 64 then
      some { s with pc := s.pc + 1, regs := s.regs.set (field body 0 a.r) (field body a.r a.rsize) }
    else none := by
  simp only [exec, ↓reduceIte, String.reduceEq]

theorem exec_unop (hop : op ∈ unops) :
    exec a n op body s =
      (s.regs[field body 0 a.r]?).bind fun x => (unop op a.rsize x).map fun v =>
        { s with pc := s.pc + 1, regs := s.regs.set (field body 0 a.r) v } := by
  obtain ⟨h1, h2⟩ := unop_first hop
  unfold exec
  dsimp only
  rw [if_neg h1, if_neg h2, if_pos hop]
  cases s.regs[field body 0 a.r]? with
  | none => rfl
  | some x => simp only [Option.bind_some]; cases unop op a.rsize x <;> rfl

theorem exec_binop (hop : op ∈ binops) :
    exec a n op body s =
      (s.regs[field body 0 a.r]?).bind fun d => (s.regs[field body a.r a.r]?).bind fun sv =>
        (binop op a.rsize d sv).map fun v =>
          { s with pc := s.pc + 1, regs := s.regs.set (field body 0 a.r) v } := by
  obtain ⟨h1, h2, h3⟩ := binop_first hop
  unfold exec
  dsimp only
  rw [if_neg h1, if_neg h2, if_neg h3, if_pos hop]
  cases s.regs[field body 0 a.r]? <;> cases s.regs[field body a.r a.r]? <;> try rfl
  simp only [Option.bind_some]; cases binop op a.rsize _ _ <;> rfl

theorem exec_pipe (hop : op ∈ pipeOps) :
    exec a n op body s =
      (if op ∈ s.phase then
        (s.regs[field body 0 a.r]?).bind fun d => (s.regs[field body a.r a.r]?).bind fun sv =>
          (pbinop op a.rsize d sv).map fun v =>
            { s with pc := s.pc + 1, regs := s.regs.set (field body 0 a.r) v, phase := s.phase.erase op }
      else some { s with phase := s.phase ++ [op] }) := by
  obtain ⟨h1, h2, h3, h4⟩ := pipe_first hop
  unfold exec
  dsimp only
  rw [if_neg h1, if_neg h2, if_neg h3, if_neg h4, if_pos hop]
  split
  · cases s.regs[field body 0 a.r]? <;> cases s.regs[field body a.r a.r]? <;> try rfl
    simp only [Option.bind_some]; cases pbinop op a.rsize _ _ <;> rfl
  · rfl

theorem exec_j : exec a n "j" body s =
    some (if field body 0 a.o < n then { s with pc := field body 0 a.o } else { s with pc := s.pc + 1 }) := by
  simp [exec, pipeOps]

theorem exec_jz : exec a n "jz" body s =
    (s.regs[field body 0 a.r]?).bind fun x =>
      if ¬ stdSize a.rsize then none
      else some (if x = 0 then { s with pc := field body a.r a.o } else { s with pc := s.pc + 1 }) := by
  simp only [exec, pipeOps, ↓reduceIte, String.reduceEq, List.mem_cons, List.not_mem_nil, or_self]
  cases s.regs[field body 0 a.r]? <;> rfl

theorem exec_i2r : exec a n "i2r" body s =
    (s.inputs[field body a.r a.inBits]?).bind fun v =>
      if field body 0 a.r < s.regs.length then
        some { s with pc := s.pc + 1, regs := s.regs.set (field body 0 a.r) v }
      else none := by
  simp only [exec, pipeOps, ↓reduceIte, String.reduceEq, List.mem_cons, List.not_mem_nil, or_self]
  cases s.inputs[field body a.r a.inBits]? <;> rfl

theorem exec_r2o : exec a n "r2o" body s =
    (s.regs[field body 0 a.r]?).bind fun v =>
      if field body a.r a.outBits < s.outputs.length then
        some { s with pc := s.pc + 1, outputs := s.outputs.set (field body a.r a.outBits) v }
      else none := by
  simp only [exec, pipeOps, ↓reduceIte, String.reduceEq, List.mem_cons, List.not_mem_nil, or_self]
  cases s.regs[field body 0 a.r]? <;> rfl

theorem exec_i2rw : exec a n "i2rw" body s =
    match s.inValid[field body a.r a.inBits]?, s.inputs[field body a.r a.inBits]? with
    | some true, some v =>
      if s.inRecv[field body a.r a.inBits]? = some true then some s
      else if field body 0 a.r < s.regs.length then
        some { s with pc := s.pc + 1, regs := s.regs.set (field body 0 a.r) v,
                      inRecv := s.inRecv.set (field body a.r a.inBits) true,
                      deferred := if field body a.r a.inBits ∈ s.deferred then s.deferred
                                  else s.deferred ++ [field body a.r a.inBits] }
      else none
    | some false, some _ => some { s with inRecv := s.inRecv.set (field body a.r a.inBits) false }
    | _, _ => none := by
  simp only [exec, pipeOps, ↓reduceIte, String.reduceEq, List.mem_cons, List.not_mem_nil, or_self]
  rfl

theorem exec_r2owa : exec a n "r2owa" body s =
    match s.regs[field body 0 a.r]?, s.outRecv[field body a.r a.outBits]? with
    | some v, some rc =>
      if s.outValid[field body a.r a.outBits]? = some false ∧ rc then some s
      else if field body a.r a.outBits < s.outputs.length then
        some (if rc then
          { s with outputs := s.outputs.set (field body a.r a.outBits) v,
                   outValid := s.outValid.set (field body a.r a.outBits) false, pc := s.pc + 1 }
        else
          { s with outputs := s.outputs.set (field body a.r a.outBits) v,
                   outValid := s.outValid.set (field body a.r a.outBits) true })
      else none
    | _, _ => none := by
  simp only [exec, pipeOps, ↓reduceIte, String.reduceEq, List.mem_cons, List.not_mem_nil, or_self]
  rfl

end equations

/-- the values `Simulate` can take: an error, or `s` with some of pc, registers, outputs, valid / recv
    flags and deferred list rewritten; the phase flags only on a pipelined opcode (the term follows
    the `if` chain: nop, rset, unary, binary, pipelined, j, jz, i2r, r2o, i2rw, r2owa, unknown) -/
theorem exec_ind {P : Option VmState → Prop} (a : Arch) (n : Nat) (op : String) (body : Bits) (s : VmState)
    (hn : P none)
    (hs : ∀ pc regs outputs outValid inRecv deferred, P (some { s with
      pc := pc, regs := regs, outputs := outputs, outValid := outValid, inRecv := inRecv, deferred := deferred }))
    (hp : op ∈ pipeOps → ∀ pc regs phase, P (some { s with pc := pc, regs := regs, phase := phase })) :
    P (exec a n op body s) := by
  unfold exec
  dsimp only
  refine ite_ind (hs ..) <| ite_ind (ite_ind (hs ..) hn) <| ite_ind ?_ <| ite_ind ?_ <| ?_
  · cases s.regs[field body 0 a.r]? with
    | none => exact hn
    | some x =>
      dsimp only
      cases unop op a.rsize x with
      | none => exact hn
      | some v => exact hs ..
  · cases s.regs[field body 0 a.r]? <;> cases s.regs[field body a.r a.r]? <;> try exact hn
    rename_i d sv
    dsimp only
    cases binop op a.rsize d sv with
    | none => exact hn
    | some v => exact hs ..
  by_cases hq : op ∈ pipeOps
  · rw [if_pos hq]
    refine ite_ind ?_ (hp hq ..)
    cases s.regs[field body 0 a.r]? <;> cases s.regs[field body a.r a.r]? <;> try exact hn
    rename_i d sv
    dsimp only
    cases pbinop op a.rsize d sv with
    | none => exact hn
    | some v => exact hp hq ..
  rw [if_neg hq]
  refine ite_ind (ite_ind (P := fun x => P (some x)) (hs ..) (hs ..)) <| ite_ind ?_ <| ite_ind ?_ <|
    ite_ind ?_ <| ite_ind ?_ <| ite_ind ?_ hn
  · cases s.regs[field body 0 a.r]? with
    | none => exact hn
    | some x => exact ite_ind hn (ite_ind (P := fun x => P (some x)) (hs ..) (hs ..))
  · cases s.inputs[field body a.r a.inBits]? with
    | none => exact hn
    | some v => exact ite_ind (hs ..) hn
  · cases s.regs[field body 0 a.r]? with
    | none => exact hn
    | some v => exact ite_ind (hs ..) hn
  · cases s.inValid[field body a.r a.inBits]? with
    | none => exact hn
    | some b =>
      cases s.inputs[field body a.r a.inBits]? with
      | none => cases b <;> exact hn
      | some v =>
        cases b
        · exact hs ..
        · exact ite_ind (hs ..) (ite_ind (hs ..) hn)
  · cases s.regs[field body 0 a.r]? <;> cases s.outRecv[field body a.r a.outBits]? <;> try exact hn
    exact ite_ind (hs ..) (ite_ind (ite_ind (P := fun x => P (some x)) (hs ..) (hs ..)) hn)

end Isa
end BMV
