/-
  BMV.Proofs.QuantumGates — the supported gate set as exact matrices over ℂ (Mathlib's complex
  numbers; `Real.sqrt`, `Real.cos`, `Real.sin`), and the proof that each of them is unitary.
  These are the textbook closed forms that lean/Oracle/C14.lean evaluates in Float (and that the tie
  compares numerically with bmmatrix's tables); in the bmqsim dialect `p` is the fixed phase gate S
  and `r θ` the phase shift.  Parametric gates are proved unitary from the algebraic hypothesis
  c² + s² = 1 on their two real parameters and then instantiated with cos / sin.
-/
import BMV.Proofs.QuantumUnitary
import Mathlib.Analysis.SpecialFunctions.Trigonometric.Basic
import Mathlib.Analysis.Real.Sqrt

namespace BMV.Quantum
open MulOps Ops Complex

noncomputable instance instOpsComplex : Ops ℂ := { zero := 0, one := 1, mul := (· * ·), add := (· + ·) }
instance instLawfulComplex : Lawful ℂ :=
  ⟨add_assoc, add_comm, zero_add, mul_assoc, mul_comm, one_mul, zero_mul, mul_add⟩

@[simp] theorem cmul (a b : ℂ) : MulOps.mul a b = a * b := rfl
@[simp] theorem cadd (a b : ℂ) : Ops.add a b = a + b := rfl
@[simp] theorem czero : (MulOps.zero : ℂ) = 0 := rfl
@[simp] theorem cone : (MulOps.one : ℂ) = 1 := rfl

theorem conjHomComplex : ConjHom (starRingEnd ℂ) :=
  ⟨fun a b => map_mul _ a b, fun a b => map_add _ a b, map_one _, map_zero _⟩

noncomputable def ofRows (rows : List (List ℂ)) : Mat ℂ := fun i j => (rows.getD i []).getD j 0

/-- the second row's product with the first is the conjugate of `h01` -/
theorem unitary2 (a b c d : ℂ)
    (h00 : a * (starRingEnd ℂ) a + b * (starRingEnd ℂ) b = 1)
    (h01 : a * (starRingEnd ℂ) c + b * (starRingEnd ℂ) d = 0)
    (h11 : c * (starRingEnd ℂ) c + d * (starRingEnd ℂ) d = 1) :
    IsUnitary 2 (starRingEnd ℂ) (ofRows [[a, b], [c, d]]) := by
  have h10 := congrArg (starRingEnd ℂ) h01
  simp only [map_add, map_mul, Complex.conj_conj, map_zero] at h10
  rw [mul_comm _ c, mul_comm _ d] at h10
  intro i j hi hj
  have hi' : i = 0 ∨ i = 1 := by omega
  have hj' : j = 0 ∨ j = 1 := by omega
  rcases hi' with rfl | rfl <;> rcases hj' with rfl | rfl <;>
    simp [mmul, sumN, dagger, idMat, ofRows, h00, h01, h10, h11]

/-- rows of the `N × N` matrix whose row `i` has the single entry `d i`, in column `σ i` -/
noncomputable def monoRows (N : Nat) (σ : Nat → Nat) (d : Nat → ℂ) : List (List ℂ) :=
  (List.range N).map fun i => (List.replicate N 0).set (σ i) (d i)

theorem ofRows_monoRows (N : Nat) (σ : Nat → Nat) (d : Nat → ℂ) (i k : Nat) (hi : i < N) (hk : k < N) :
    ofRows (monoRows N σ d) i k = if k = σ i then d i else 0 := by
  simp only [ofRows, monoRows, List.getD_eq_getElem?_getD, List.getElem?_map, List.getElem?_range hi,
    Option.map_some, Option.getD_some, List.getElem?_set, List.length_replicate,
    List.getElem?_replicate, hk, if_true]
  by_cases e : σ i = k
  · rw [if_pos e, if_pos e.symm, if_pos (e ▸ hk), Option.getD_some]
  · rw [if_neg e, if_neg (fun h => e h.symm), Option.getD_some]

/-- Permutation, diagonal and phase gates: one entry of unit modulus per row, in different columns.
    A table of the gate set is such a matrix by unfolding (`σ` and `d` are read off the table). -/
theorem monoRows_unitary (N : Nat) (σ : Nat → Nat) (d : Nat → ℂ)
    (hσ : ∀ i, i < N → σ i < N ∧ ∀ j, j < N → σ i = σ j → i = j)
    (hd : ∀ i, i < N → d i * (starRingEnd ℂ) (d i) = 1) :
    IsUnitary N (starRingEnd ℂ) (ofRows (monoRows N σ d)) := by
  refine isUnitary_of_monomial conjHomComplex N _ σ (fun i hi => (hσ i hi).1)
    (fun i hi => (hσ i hi).2) ?_ ?_
  · intro i k hi hk hne
    rw [ofRows_monoRows N σ d i k hi hk, if_neg hne]; rfl
  · intro i hi
    rw [ofRows_monoRows N σ d i _ hi (hσ i hi).1, if_pos rfl]
    exact hd i hi

noncomputable def hM (h : ℝ) : Mat ℂ := ofRows [[h, h], [h, -(h : ℂ)]]
noncomputable def rxM (c s : ℝ) : Mat ℂ := ofRows [[c, -(s : ℂ) * I], [-(s : ℂ) * I, c]]
noncomputable def ryM (c s : ℝ) : Mat ℂ := ofRows [[c, -(s : ℂ)], [s, c]]
noncomputable def rzM (c s : ℝ) : Mat ℂ := ofRows [[(c : ℂ) - s * I, 0], [0, (c : ℂ) + s * I]]
noncomputable def phM (c s : ℝ) : Mat ℂ := ofRows [[1, 0], [0, (c : ℂ) + s * I]]

theorem cis_mul_conj (c s : ℝ) (h : c ^ 2 + s ^ 2 = 1) :
    ((c : ℂ) + s * I) * (starRingEnd ℂ) ((c : ℂ) + s * I) = 1 := by
  rw [Complex.mul_conj, Complex.normSq_add_mul_I]; exact_mod_cast h

theorem cis_neg_mul_conj (c s : ℝ) (h : c ^ 2 + s ^ 2 = 1) :
    ((c : ℂ) - s * I) * (starRingEnd ℂ) ((c : ℂ) - s * I) = 1 := by
  have e : (c : ℂ) - s * I = c + ((-s : ℝ) : ℂ) * I := by push_cast; ring
  rw [e]; exact cis_mul_conj c (-s) (by rw [neg_sq]; exact h)

theorem hM_unitary (h : ℝ) (hh : 2 * h ^ 2 = 1) : IsUnitary 2 (starRingEnd ℂ) (hM h) := by
  have hC : 2 * (h : ℂ) ^ 2 = 1 := by exact_mod_cast hh
  apply unitary2 <;> simp only [map_neg, Complex.conj_ofReal]
  · linear_combination hC
  · ring
  · linear_combination hC
theorem rxM_unitary (c s : ℝ) (h : c ^ 2 + s ^ 2 = 1) : IsUnitary 2 (starRingEnd ℂ) (rxM c s) := by
  have hC : (c : ℂ) ^ 2 + (s : ℂ) ^ 2 = 1 := by exact_mod_cast h
  apply unitary2 <;> simp only [map_neg, map_mul, Complex.conj_ofReal, Complex.conj_I]
  · linear_combination hC - (s : ℂ) ^ 2 * Complex.I_sq
  · ring
  · linear_combination hC - (s : ℂ) ^ 2 * Complex.I_sq
theorem ryM_unitary (c s : ℝ) (h : c ^ 2 + s ^ 2 = 1) : IsUnitary 2 (starRingEnd ℂ) (ryM c s) := by
  have hC : (c : ℂ) ^ 2 + (s : ℂ) ^ 2 = 1 := by exact_mod_cast h
  apply unitary2 <;> simp only [map_neg, Complex.conj_ofReal]
  · linear_combination hC
  · ring
  · linear_combination hC
theorem rzM_unitary (c s : ℝ) (h : c ^ 2 + s ^ 2 = 1) : IsUnitary 2 (starRingEnd ℂ) (rzM c s) :=
  monoRows_unitary 2 id (fun i => if i = 0 then (c : ℂ) - s * I else (c : ℂ) + s * I) (by decide)
    fun _ _ => by split <;> [exact cis_neg_mul_conj c s h; exact cis_mul_conj c s h]
theorem phM_unitary (c s : ℝ) (h : c ^ 2 + s ^ 2 = 1) : IsUnitary 2 (starRingEnd ℂ) (phM c s) :=
  monoRows_unitary 2 id (fun i => if i = 0 then 1 else (c : ℂ) + s * I) (by decide)
    fun _ _ => by split <;> [simp; exact cis_mul_conj c s h]

theorem inv_sqrt_two : 2 * ((Real.sqrt 2)⁻¹) ^ 2 = 1 := by
  have h2 : Real.sqrt 2 * Real.sqrt 2 = 2 := Real.mul_self_sqrt (by norm_num)
  have hne : Real.sqrt 2 ≠ 0 := by
    intro h; rw [h] at h2; norm_num at h2
  field_simp
  nlinarith [h2]

/-! ### the supported gate set -/
inductive Kind
  | h | x | y | z | s | t | sx | p
  | rx (θ : ℝ) | ry (θ : ℝ) | rz (θ : ℝ) | r (θ : ℝ)
  | cx | cz | swap | iswap | dcnot

def Kind.arity : Kind → Nat
  | .cx | .cz | .swap | .iswap | .dcnot => 2
  | _ => 1

noncomputable def Kind.mat : Kind → Mat ℂ
  | .h => hM (Real.sqrt 2)⁻¹
  | .x => ofRows [[0, 1], [1, 0]]
  | .y => ofRows [[0, -I], [I, 0]]
  | .z => ofRows [[1, 0], [0, -1]]
  | .s => ofRows [[1, 0], [0, I]]
  | .p => ofRows [[1, 0], [0, I]]
  | .t => phM (Real.cos (Real.pi / 4)) (Real.sin (Real.pi / 4))
  | .sx => ofRows [[⟨1 / 2, 1 / 2⟩, ⟨1 / 2, -(1 / 2)⟩], [⟨1 / 2, -(1 / 2)⟩, ⟨1 / 2, 1 / 2⟩]]
  | .rx θ => rxM (Real.cos (θ / 2)) (Real.sin (θ / 2))
  | .ry θ => ryM (Real.cos (θ / 2)) (Real.sin (θ / 2))
  | .rz θ => rzM (Real.cos (θ / 2)) (Real.sin (θ / 2))
  | .r θ => phM (Real.cos θ) (Real.sin θ)
  | .cx => ofRows [[1, 0, 0, 0], [0, 1, 0, 0], [0, 0, 0, 1], [0, 0, 1, 0]]
  | .cz => ofRows [[1, 0, 0, 0], [0, 1, 0, 0], [0, 0, 1, 0], [0, 0, 0, -1]]
  | .swap => ofRows [[1, 0, 0, 0], [0, 0, 1, 0], [0, 1, 0, 0], [0, 0, 0, 1]]
  | .iswap => ofRows [[1, 0, 0, 0], [0, 0, I, 0], [0, I, 0, 0], [0, 0, 0, 1]]
  | .dcnot => ofRows [[1, 0, 0, 0], [0, 0, 1, 0], [0, 0, 0, 1], [0, 1, 0, 0]]

/-- a gate of kind `k` applied to the qubits `args` -/
noncomputable def Kind.gate (k : Kind) (args : List Nat) : Gate ℂ := ⟨k.mat, args⟩

theorem kind_unitary (k : Kind) : IsUnitary (2 ^ k.arity) (starRingEnd ℂ) k.mat := by
  cases k with
  | h => exact hM_unitary _ inv_sqrt_two
  | x => exact monoRows_unitary 2 (tr 0 1) (fun _ => 1) (by decide) fun _ _ => by simp
  | y =>
    exact monoRows_unitary 2 (tr 0 1) (fun i => if i = 0 then -I else I) (by decide)
      fun _ _ => by split <;> simp
  | z =>
    exact monoRows_unitary 2 id (fun i => if i = 0 then 1 else -1) (by decide)
      fun _ _ => by split <;> simp
  | s | p =>
    exact monoRows_unitary 2 id (fun i => if i = 0 then 1 else I) (by decide)
      fun _ _ => by split <;> simp
  | t => exact phM_unitary _ _ (Real.cos_sq_add_sin_sq _)
  | sx =>
    apply unitary2 <;> simp [Complex.ext_iff] <;> norm_num
  | rx θ => exact rxM_unitary _ _ (Real.cos_sq_add_sin_sq _)
  | ry θ => exact ryM_unitary _ _ (Real.cos_sq_add_sin_sq _)
  | rz θ => exact rzM_unitary _ _ (Real.cos_sq_add_sin_sq _)
  | r θ => exact phM_unitary _ _ (Real.cos_sq_add_sin_sq _)
  | cx => exact monoRows_unitary 4 (tr 2 3) (fun _ => 1) (by decide) fun _ _ => by simp
  | cz =>
    exact monoRows_unitary 4 id (fun i => if i = 3 then -1 else 1) (by decide)
      fun _ _ => by split <;> simp
  | swap => exact monoRows_unitary 4 (tr 1 2) (fun _ => 1) (by decide) fun _ _ => by simp
  | iswap =>
    exact monoRows_unitary 4 (tr 1 2) (fun i => if i = 1 ∨ i = 2 then I else 1) (by decide)
      fun _ _ => by split <;> simp
  | dcnot =>
    exact monoRows_unitary 4 ([0, 2, 3, 1].getD · 0) (fun _ => 1) (by decide)
      fun _ _ => by simp

end BMV.Quantum
