/-
  BMV.Proofs.Json — lemmas about the save/load model (BMV/Json.lean) used by BMV/Props/C11.lean.
  Core only.
-/
import BMV.Json
namespace BMV.Json

/-! ## decimal printing and parsing -/

theorem toDigits_all_digit (n : Nat) : (Nat.toDigits 10 n).all Char.isDigit = true :=
  List.all_eq_true.mpr fun _ hc => Nat.isDigit_of_mem_toDigits (by decide) (by decide) hc

theorem atoiNat_toDigits (n : Nat) : atoiNat (Nat.toDigits 10 n) = some n := by
  simp only [atoiNat, List.isEmpty_eq_false_iff.mpr Nat.toDigits_ne_nil, toDigits_all_digit,
    Nat.ofDigitChars_ten_toDigits]
  simp

theorem ne_of_isDigit {c d : Char} (hc : c.isDigit = true) (hd : d.isDigit = false) : c ≠ d :=
  fun e => by rw [e, hd] at hc; cases hc

theorem atoi_toDigits (n : Nat) : atoi (Nat.toDigits 10 n) = some (Int.ofNat n) := by
  have h := atoiNat_toDigits n
  have hd := toDigits_all_digit n
  cases hc : Nat.toDigits 10 n with
  | nil => exact absurd hc Nat.toDigits_ne_nil
  | cons c cs =>
    rw [hc] at h hd
    have hcd : c.isDigit = true := by
      simp only [List.all_cons, Bool.and_eq_true] at hd; exact hd.1
    simp only [atoi, ne_of_isDigit hcd (d := '-') rfl, ne_of_isDigit hcd (d := '+') rfl, if_false, h]

theorem atoi_itoa (i : Int) : atoi (itoa i) = some i := by
  unfold itoa
  split
  · rename_i h
    simp only [atoi, if_true, atoiNat_toDigits]
    congr 1; simp only [Int.ofNat_eq_natCast]; omega
  · rename_i h
    rw [atoi_toDigits]; congr 1; simp only [Int.ofNat_eq_natCast]; omega

theorem colon_not_mem_itoa (i : Int) : ':' ∉ itoa i := by
  unfold itoa
  intro h
  have hd : ∀ n, ':' ∉ Nat.toDigits 10 n := fun n hm =>
    ne_of_isDigit (Nat.isDigit_of_mem_toDigits (by decide) (by decide) hm) rfl rfl
  split at h
  · simp only [List.mem_cons] at h
    rcases h with h | h
    · exact absurd h (by decide)
    · exact hd _ h
  · exact hd _ h

theorem itoa_ne_nil (i : Int) : itoa i ≠ [] := by
  unfold itoa; split
  · simp
  · exact Nat.toDigits_ne_nil

theorem itoa_isEmpty (i : Int) : (itoa i).isEmpty = false :=
  List.isEmpty_eq_false_iff.mpr (itoa_ne_nil i)

/-! ## strings.Split / strings.HasPrefix -/

theorem splitOn_ne_nil (sep : Char) (s : List Char) : splitOn sep s ≠ [] := by
  cases s with
  | nil => simp [splitOn]
  | cons c cs => simp only [splitOn]; split <;> simp

theorem splitOn_nosep {sep : Char} {a : List Char} (h : sep ∉ a) : splitOn sep a = [a] := by
  induction a with
  | nil => rfl
  | cons c cs ih =>
    have hc : c ≠ sep := fun e => h (by simp [e])
    have hcs : sep ∉ cs := fun m => h (List.mem_cons_of_mem _ m)
    simp only [splitOn, hc, if_false, ih hcs, List.headD_cons, List.tail_cons]

theorem splitOn_append_sep {sep : Char} {a : List Char} (rest : List Char) (h : sep ∉ a) :
    splitOn sep (a ++ sep :: rest) = a :: splitOn sep rest := by
  induction a with
  | nil => simp [splitOn]
  | cons c cs ih =>
    have hc : c ≠ sep := fun e => h (by simp [e])
    have hcs : sep ∉ cs := fun m => h (List.mem_cons_of_mem _ m)
    simp only [List.cons_append, splitOn, hc, if_false, ih hcs, List.headD_cons, List.tail_cons]

theorem dropPrefix?_append (p s : List Char) : dropPrefix? p (p ++ s) = some s := by
  induction p with
  | nil => cases s <;> rfl
  | cons c cs ih => simp [dropPrefix?, ih]

/-! ## shared objects: `Instantiate (String so) = so` -/


section
/- evaluating `Instantiate` on a printed object: every kind tried before the right one rejects the
   literal prefix, the right one reads its decimals back -/
attribute [local simp] instantiate SO.toString instSharedmem instChannel instBarrier instLfsr8
  instVtextmem instQueue instStack instUart instKbd instNum dropPrefix? atoi_itoa itoa_isEmpty

theorem rt_lfsr8 (s : Fin 256) : instantiate (SO.toString (.lfsr8 s)) = some (.lfsr8 s) := by
  have hs : Fin.ofNat 256 (((s.val : Int) % 256).toNat) = s := by
    apply Fin.ext
    simp only [Fin.ofNat] ; omega
  simp [hs]

theorem splitOn_ints (w : List Char) (is : List Int) (hw : ':' ∉ w) :
    splitOn ':' (w ++ (is.map fun i => ':' :: itoa i).flatten) = w :: is.map itoa := by
  induction is generalizing w with
  | nil => simp [splitOn_nosep hw]
  | cons i is ih =>
    simp only [List.map_cons, List.flatten_cons, List.cons_append]
    rw [splitOn_append_sep _ hw, ih _ (colon_not_mem_itoa i)]

theorem rt_kbd (d : Int) : instantiate (SO.toString (.kbd d)) = some (.kbd d) := by
  have h1 := splitOn_ints ['k','b','d'] [d] (by decide)
  simp only [List.map_cons, List.map_nil, List.flatten_cons, List.flatten_nil, List.append_nil,
    List.cons_append, List.nil_append] at h1
  simp [h1]

theorem rt_uart (b d : Int) : instantiate (SO.toString (.uart b d)) = some (.uart b d) := by
  have h1 := splitOn_ints ['u','a','r','t'] [b, d] (by decide)
  simp only [List.map_cons, List.map_nil, List.flatten_cons, List.flatten_nil, List.append_nil,
    List.cons_append, List.nil_append] at h1
  simp [h1]

def boxInts (bs : List Box) : List Int := bs.flatMap fun b => [b.cp, b.left, b.top, b.width, b.height]

theorem boxes_flatten (bs : List Box) :
    (bs.map boxStr).flatten = ((boxInts bs).map fun i => ':' :: itoa i).flatten := by
  induction bs with
  | nil => rfl
  | cons b bs ih =>
    simp only [List.map_cons, List.flatten_cons, ih, boxInts, List.flatMap_cons, boxStr,
      List.cons_append, List.append_assoc, List.nil_append]

theorem parseBoxes_boxInts (bs : List Box) : parseBoxes ((boxInts bs).map itoa) = some bs := by
  induction bs with
  | nil => rfl
  | cons b bs ih =>
    have : (boxInts (b :: bs)).map itoa =
        itoa b.cp :: itoa b.left :: itoa b.top :: itoa b.width :: itoa b.height
          :: (boxInts bs).map itoa := by
      simp [boxInts]
    rw [this]
    simp only [parseBoxes, atoi_itoa, ih]

theorem rt_vtextmem (bs : List Box) (h : bs ≠ []) :
    instantiate (SO.toString (.vtextmem bs)) = some (.vtextmem bs) := by
  obtain ⟨b, bs, rfl⟩ := List.exists_cons_of_ne_nil h
  have hsplit := splitOn_ints ['v','t','e','x','t','m','e','m'] (boxInts (b :: bs)) (by decide)
  rw [← boxes_flatten] at hsplit
  -- the first box supplies the `:` that completes the literal `vtextmem:`
  obtain ⟨r, hr⟩ : ∃ r, ((b :: bs).map boxStr).flatten = ':' :: r := by simp [boxStr]
  rw [hr] at hsplit
  have hne : ((boxInts (b :: bs)).map itoa).isEmpty = false := by simp [boxInts]
  simp only [List.cons_append, List.nil_append] at hsplit
  have hv : instVtextmem ('v'::'t'::'e'::'x'::'t'::'m'::'e'::'m'::':'::r)
      = some (.vtextmem (b :: bs)) := by
    simp only [instVtextmem, dropPrefix?, if_true, hsplit, hne, parseBoxes_boxInts]
    simp
  simp only [instantiate, SO.toString, hr, List.cons_append, List.nil_append, hv]
  simp

theorem so_roundtrip_all (so : SO) (h : so.Valid) : instantiate so.toString = some so := by
  cases so with
  | lfsr8 s => exact rt_lfsr8 s
  | vtextmem bs => exact rt_vtextmem bs h
  | uart b d => exact rt_uart b d
  | kbd d => exact rt_kbd d
  | _ => simp  -- `prefix:decimal` and the bare `channel:`

theorem sos_roundtrip (sos : List SO) (hv : ∀ so ∈ sos, so.Valid) :
    (sos.map SO.toString).map instantiate = sos.map some := by
  induction sos with
  | nil => rfl
  | cons so sos ih =>
    simp only [List.map_cons, so_roundtrip_all so (hv so (by simp)),
      ih (fun s hs => hv s (by simp [hs]))]

end

/-! ## registry lookups -/

theorem lookupLast_eq_none_iff {ops : List Opcode} {n : String} :
    lookupLast ops n = none ↔ ∀ op ∈ ops, op.name ≠ n := by
  simp only [lookupLast, List.find?_eq_none, List.mem_reverse, beq_iff_eq]

theorem lookupLast_some {ops : List Opcode} {n : String} {op : Opcode}
    (h : lookupLast ops n = some op) : op.name = n ∧ op ∈ ops := by
  unfold lookupLast at h
  have h1 := List.find?_some h
  have h2 := List.mem_of_find?_eq_some h
  exact ⟨by simpa using h1, List.mem_reverse.mp h2⟩

theorem eq_of_name_eq {l : List Opcode} (hn : (l.map (·.name)).Nodup) {a b : Opcode} (ha : a ∈ l)
    (hb : b ∈ l) (e : a.name = b.name) : a = b := by
  rw [List.Nodup, List.pairwise_map] at hn
  exact List.Pairwise.forall_of_forall_of_flip (R := fun a b => a.name = b.name → a = b)
    (fun _ _ _ => rfl) (hn.imp fun h e => absurd e h) (hn.imp fun h e => absurd e.symm h) ha hb e

theorem lookupLast_mem {ops : List Opcode} (hn : (ops.map (·.name)).Nodup) {op : Opcode}
    (hm : op ∈ ops) : lookupLast ops op.name = some op := by
  cases h : lookupLast ops op.name with
  | none => exact absurd rfl (lookupLast_eq_none_iff.mp h op hm)
  | some x =>
    obtain ⟨hx, hxm⟩ := lookupLast_some h
    rw [eq_of_name_eq hn hxm hm hx]

theorem lookupLast_append_single (ops : List Opcode) (op : Opcode) :
    lookupLast (ops ++ [op]) op.name = some op := by
  simp [lookupLast]

/-! ## EventuallyCreateInstruction -/

/-- the two outcomes of `EventuallyCreateInstruction`: nothing changes (the name is taken, or the
    first matching family, if any, fails to build it), or the name was free and the opcode built by
    the first matching family is appended -/
theorem ec_cases (reg : Registry) (n : String) :
    (eventuallyCreate reg n = reg ∧
      ((∃ o ∈ reg.ops, o.name = n) ∨
        ∀ f, reg.fams.find? (·.matchName n) = some f → f.create n = none)) ∨
    ∃ f op, reg.fams.find? (·.matchName n) = some f ∧ f.create n = some op ∧
      (∀ o ∈ reg.ops, o.name ≠ n) ∧
      eventuallyCreate reg n = { reg with ops := reg.ops ++ [op] } := by
  unfold eventuallyCreate
  split
  · rename_i hnone
    exact .inl ⟨rfl, .inr fun f hf => by rw [hnone] at hf; cases hf⟩
  · rename_i f hf
    split
    · rename_i hany
      simp only [List.any_eq_true, beq_iff_eq] at hany
      exact .inl ⟨rfl, .inl hany⟩
    · rename_i hany
      simp only [List.any_eq_true, beq_iff_eq, not_exists, not_and] at hany
      split
      · rename_i hcr
        exact .inl ⟨rfl, .inr fun f' hf' => by rw [hf] at hf'; cases hf'; exact hcr⟩
      · rename_i op hop
        exact .inr ⟨f, op, hf, hop, hany, rfl⟩

theorem ec_of_name_mem {reg : Registry} {n : String} (h : ∃ o ∈ reg.ops, o.name = n) :
    eventuallyCreate reg n = reg := by
  rcases ec_cases reg n with ⟨h1, _⟩ | ⟨_, _, _, _, hno, _⟩
  · exact h1
  · obtain ⟨o, ho, hn⟩ := h
    exact absurd hn (hno o ho)

theorem ec_fams (reg : Registry) (n : String) : (eventuallyCreate reg n).fams = reg.fams := by
  rcases ec_cases reg n with ⟨h, _⟩ | ⟨_, _, _, _, _, h⟩ <;> rw [h]

theorem ext_step {reg0 reg : Registry} (hc : CreateNames reg0) (he : Ext reg0 reg) (n : String) :
    Ext reg0 (eventuallyCreate reg n) := by
  rcases ec_cases reg n with ⟨h1, _⟩ | ⟨f, op, hf, hop, hno, h⟩
  · rw [h1]; exact he
  · rw [h]
    obtain ⟨extra, hex, hcan⟩ := he.ops
    rw [he.fams] at hf
    obtain rfl : op.name = n := hc f (List.mem_of_find?_eq_some hf) n op hop
    refine ⟨he.fams, ⟨extra ++ [op], by simp [hex], ?_⟩, ?_⟩
    · exact List.forall_mem_append.mpr
        ⟨hcan, fun o ho => by rw [List.mem_singleton.mp ho]; exact ⟨f, hf, hop⟩⟩
    · show ((reg.ops ++ [op]).map (·.name)).Nodup
      rw [List.map_append, List.nodup_append]
      refine ⟨he.nodup, List.pairwise_singleton _ _, fun a ha b hb e => ?_⟩
      obtain ⟨o, ho, rfl⟩ := List.mem_map.mp ha
      exact hno o ho (e.trans (List.mem_singleton.mp hb))

/-- looking a resolvable opcode up by name, as `Dejsoner` does, finds it: it is registered already,
    or its name is free and the first family accepting the name builds it -/
theorem resolve_step {reg0 reg : Registry} (he : Ext reg0 reg) {op : Opcode}
    (hr : ResolvableOp reg0 op) :
    lookupLast (eventuallyCreate reg op.name).ops op.name = some op := by
  obtain ⟨extra, hex, hcan⟩ := he.ops
  have found (hm : op ∈ reg.ops) :
      lookupLast (eventuallyCreate reg op.name).ops op.name = some op := by
    rw [ec_of_name_mem ⟨op, hm, rfl⟩]; exact lookupLast_mem he.nodup hm
  rcases hr with h | ⟨hnot, f, hf, hcr⟩
  · exact found (hex ▸ List.mem_append_left _ h)
  · rw [← he.fams] at hf
    rcases ec_cases reg op.name with ⟨_, ⟨o, ho, hn⟩ | hnone⟩ | ⟨f', op', hf', hop', _, h⟩
    · -- the name is taken: not by a static opcode, so by what the same family built earlier
      rcases List.mem_append.mp (hex ▸ ho) with h | h
      · exact absurd (hn ▸ List.mem_map_of_mem (f := (·.name)) h) hnot
      · obtain ⟨f', hf', hcr'⟩ := hcan o h
        rw [hn, ← he.fams, hf] at hf'; cases hf'
        rw [hn, hcr] at hcr'; cases hcr'
        exact found ho
    · rw [hnone f hf] at hcr; cases hcr
    · rw [hf] at hf'; cases hf'
      rw [hcr] at hop'; cases hop'
      rw [h]; exact lookupLast_append_single _ _

theorem resolvableOpB_iff (reg0 : Registry) (op : Opcode) :
    resolvableOpB reg0 op = true ↔ ResolvableOp reg0 op := by
  unfold resolvableOpB ResolvableOp Canon
  simp only [Bool.or_eq_true, Bool.and_eq_true, Bool.not_eq_true', List.contains_eq_mem,
    decide_eq_true_eq, decide_eq_false_iff_not]
  refine or_congr Iff.rfl (and_congr Iff.rfl ?_)
  cases reg0.fams.find? (·.matchName op.name) <;> simp

theorem dejsonOps_length (reg : Registry) (ns : List String) :
    (dejsonOps reg ns).2.length = ns.length := by
  induction ns generalizing reg with
  | nil => rfl
  | cons n ns ih => simp [dejsonOps, ih]

theorem dejsonOps_resolvable {reg0 : Registry} (hc : CreateNames reg0) (ops : List Opcode)
    (reg : Registry) (he : Ext reg0 reg) (hr : ∀ op ∈ ops, ResolvableOp reg0 op) :
    (dejsonOps reg (ops.map (·.name))).2 = ops.map some ∧
    Ext reg0 (dejsonOps reg (ops.map (·.name))).1 := by
  induction ops generalizing reg with
  | nil => exact ⟨rfl, he⟩
  | cons op ops ih =>
    have h1 := resolve_step he (hr op List.mem_cons_self)
    have h2 := ih _ (ext_step hc he op.name) fun o ho => hr o (List.mem_cons_of_mem _ ho)
    simp only [List.map_cons, dejsonOps, h1, h2.1]
    exact ⟨trivial, h2.2⟩

/-! ## machine level -/

theorem allSome_map_some {α : Type} (l : List α) : allSome (l.map some) = some l := by
  induction l with
  | nil => rfl
  | cons a l ih => simp [allSome, ih]

theorem allSome_some_iff {α : Type} {l : List (Option α)} {r : List α}
    (h : allSome l = some r) : l = r.map some := by
  induction l generalizing r with
  | nil => simp [allSome] at h; subst h; rfl
  | cons a l ih =>
    cases a with
    | none => simp [allSome] at h
    | some a =>
      simp only [allSome, Option.map_eq_some_iff] at h
      obtain ⟨r', hr', rfl⟩ := h
      simp [ih hr']

theorem check_lift (m : Machine) : m.lift.check = some m := by
  simp [MachineOf.check, MachineOf.lift, MachineOf.mapOps, allSome_map_some]

theorem jsoner_clearTransient (m : Machine) : jsoner m.clearTransient = jsoner m := rfl

theorem dejsoner_jsoner {reg0 reg : Registry} (hc : CreateNames reg0) (he : Ext reg0 reg)
    {m : Machine} (hr : Resolvable reg0 m) :
    (dejsoner reg (jsoner m)).2 = m.clearTransient.lift ∧ Ext reg0 (dejsoner reg (jsoner m)).1 := by
  have h := dejsonOps_resolvable hc m.ops reg he hr
  refine ⟨?_, h.2⟩
  simp only [dejsoner, jsoner, h.1, MachineOf.lift, MachineOf.mapOps, MachineOf.clearTransient]

theorem dejsonDomains_length (reg : Registry) (js : List MachineJson) :
    (dejsonDomains reg js).2.length = js.length := by
  induction js generalizing reg with
  | nil => rfl
  | cons j js ih => simp [dejsonDomains, ih]

theorem dejsonDomains_resolvable {reg0 : Registry} (hc : CreateNames reg0) (ds : List Machine)
    (reg : Registry) (he : Ext reg0 reg) (hr : ∀ d ∈ ds, Resolvable reg0 d) :
    (dejsonDomains reg (ds.map jsoner)).2 = ds.map (fun d => d.clearTransient.lift) ∧
    Ext reg0 (dejsonDomains reg (ds.map jsoner)).1 := by
  induction ds generalizing reg with
  | nil => exact ⟨rfl, he⟩
  | cons d ds ih =>
    have h1 := dejsoner_jsoner hc he (hr d List.mem_cons_self)
    have h2 := ih _ h1.2 fun x hx => hr x (List.mem_cons_of_mem _ hx)
    simp only [List.map_cons, dejsonDomains, h1.1, h2.1]
    exact ⟨trivial, h2.2⟩

theorem check_lift_list (ds : List Machine) :
    allSome (ds.map fun d => MachineOf.check d.lift) = some ds := by
  have : (ds.map fun d => MachineOf.check d.lift) = ds.map some := by
    apply List.map_congr_left; intro d _; exact check_lift d
  rw [this, allSome_map_some]


theorem BMOf.check_lift (b : BM) : b.lift.check = some b := by
  have h1 : allSome (b.lift.domains.map MachineOf.check) = some b.domains := by
    simpa only [BMOf.lift, List.map_map, Function.comp_def] using check_lift_list b.domains
  have h2 : allSome b.lift.sos = some b.sos := allSome_map_some _
  simp only [BMOf.check, h1, h2]; rfl

theorem jsonerBM_clearTransient (b : BM) : jsonerBM b.clearTransient = jsonerBM b := by
  simp only [jsonerBM, BMOf.clearTransient, List.map_map]; rfl

/-! ## `Instantiate` only builds valid objects -/


theorem orElse_elim {α : Type} {P : α → Prop} {a b : Option α} (ha : ∀ x, a = some x → P x)
    (hb : ∀ x, b = some x → P x) (x : α) (h : (a <|> b) = some x) : P x := by
  cases a with
  | none => exact hb x (by simpa using h)
  | some y => exact ha x (by simpa using h)

theorem instNum_valid {pre : List Char} {mk : Int → SO} {s : List Char} (hmk : ∀ i, (mk i).Valid)
    (so : SO) (h : instNum pre mk s = some so) : so.Valid := by
  unfold instNum at h
  split at h
  · cases h
  · split at h
    · cases h
    · obtain ⟨i, _, rfl⟩ := Option.map_eq_some_iff.mp h
      exact hmk i

theorem parseBoxes_ne_nil {l : List (List Char)} {bs : List Box} (hl : l ≠ [])
    (h : parseBoxes l = some bs) : bs ≠ [] := by
  unfold parseBoxes at h
  split at h
  · exact absurd rfl hl
  · split at h
    · cases h; exact List.cons_ne_nil _ _
    · cases h
  · cases h

theorem instVtextmem_valid {s : List Char} (so : SO) (h : instVtextmem s = some so) : so.Valid := by
  unfold instVtextmem at h
  split at h
  · cases h
  · split at h
    · split at h
      · cases h
      · rename_i comps _ hne
        obtain ⟨bs, hp, rfl⟩ := Option.map_eq_some_iff.mp h
        exact parseBoxes_ne_nil (fun e => hne (by rw [e]; rfl)) hp
    · cases h

theorem instChannel_valid {s : List Char} (so : SO) (h : instChannel s = some so) : so.Valid := by
  unfold instChannel at h; split at h <;> cases h; trivial

theorem instUart_valid {s : List Char} (so : SO) (h : instUart s = some so) : so.Valid := by
  unfold instUart at h; split at h; cases h; split at h <;> cases h; trivial

theorem instKbd_valid {s : List Char} (so : SO) (h : instKbd s = some so) : so.Valid := by
  unfold instKbd at h; split at h; cases h; split at h <;> cases h; trivial

end BMV.Json
