/-
  C18: the checker's `[undeclared]` class against `elaborate`'s name resolution.
-/
import BMV.Vlog.Check
namespace BMV.Vlog

theorem NoUndecl.ok {α : Type} (a : α) : NoUndecl (Except.ok a : R α) := fun _ h => by cases h
theorem NoUndecl.pure {α : Type} (a : α) : NoUndecl (Pure.pure a : R α) := fun _ h => by cases h
theorem NoUndecl.bind {α β : Type} {x : R α} {f : α → R β} (hx : NoUndecl x) (hf : ∀ a, NoUndecl (f a)) :
    NoUndecl (x >>= f) := by
  cases x with
  | error e => intro m h; exact hx m (by simpa [Bind.bind, Except.bind] using h)
  | ok a => exact hf a

theorem constEval_noUndecl (e : Expr) : NoUndecl (constEval e) := by
  unfold constEval
  split
  · exact NoUndecl.pure _
  · intro msg h
    simp only [throw, throwThe, MonadExceptOf.throw, Except.error.injEq] at h
    subst h
    simp [UndeclMsg, String.toList_append, ToString.toString, List.isPrefixOf]

mutual
theorem resolveExpr_noUndecl (sc : Scope) : ∀ (e : Expr), (∀ n, n ∈ exprIds e → sc.contains n = true) →
    NoUndecl (resolveExpr sc e)
  | .num _ _, _ => by unfold resolveExpr; exact NoUndecl.pure _
  | .sig _, _ => by unfold resolveExpr; exact NoUndecl.pure _
  | .id n, h => by
    unfold resolveExpr
    split
    · exact NoUndecl.pure _
    · exact NoUndecl.pure _
    · rename_i hnone
      have := h n (by simp [exprIds])
      rw [Std.HashMap.contains_eq_isSome_getElem?, hnone] at this
      simp at this
  | .idx b i, h => by
    unfold resolveExpr
    have hb := resolveExpr_noUndecl sc b (fun n hn => h n (by simp [exprIds, hn]))
    have hi := resolveExpr_noUndecl sc i (fun n hn => h n (by simp [exprIds, hn]))
    exact hb.bind (fun _ => hi.bind (fun _ => NoUndecl.pure _))
  | .rng b m l, h => by
    unfold resolveExpr
    have hb := resolveExpr_noUndecl sc b (fun n hn => h n (by simp [exprIds, hn]))
    have hm := resolveExpr_noUndecl sc m (fun n hn => h n (by simp [exprIds, hn]))
    have hl := resolveExpr_noUndecl sc l (fun n hn => h n (by simp [exprIds, hn]))
    exact hm.bind (fun _ => (constEval_noUndecl _).bind (fun _ => hl.bind (fun _ =>
      (constEval_noUndecl _).bind (fun _ => hb.bind (fun _ => NoUndecl.pure _)))))
  | .ipart b s w up, h => by
    unfold resolveExpr
    have hb := resolveExpr_noUndecl sc b (fun n hn => h n (by simp [exprIds, hn]))
    have hs := resolveExpr_noUndecl sc s (fun n hn => h n (by simp [exprIds, hn]))
    have hw := resolveExpr_noUndecl sc w (fun n hn => h n (by simp [exprIds, hn]))
    exact hw.bind (fun _ => (constEval_noUndecl _).bind (fun _ => hb.bind (fun _ => hs.bind (fun _ => NoUndecl.pure _))))
  | .cat es, h => by
    unfold resolveExpr
    have := resolveExprs_noUndecl sc es (fun n hn => h n (by simp [exprIds, hn]))
    exact this.bind (fun _ => NoUndecl.pure _)
  | .rep c es, h => by
    unfold resolveExpr
    have hc := resolveExpr_noUndecl sc c (fun n hn => h n (by simp [exprIds, hn]))
    have hes := resolveExprs_noUndecl sc es (fun n hn => h n (by simp [exprIds, hn]))
    exact hc.bind (fun _ => (constEval_noUndecl _).bind (fun _ => hes.bind (fun _ => NoUndecl.pure _)))
  | .un _ e, h => by
    unfold resolveExpr
    have he := resolveExpr_noUndecl sc e (fun n hn => h n (by simp [exprIds, hn]))
    exact he.bind (fun _ => NoUndecl.pure _)
  | .bin _ a b, h => by
    unfold resolveExpr
    have ha := resolveExpr_noUndecl sc a (fun n hn => h n (by simp [exprIds, hn]))
    have hb := resolveExpr_noUndecl sc b (fun n hn => h n (by simp [exprIds, hn]))
    exact ha.bind (fun _ => hb.bind (fun _ => NoUndecl.pure _))
  | .cond c a b, h => by
    unfold resolveExpr
    have hc := resolveExpr_noUndecl sc c (fun n hn => h n (by simp [exprIds, hn]))
    have ha := resolveExpr_noUndecl sc a (fun n hn => h n (by simp [exprIds, hn]))
    have hb := resolveExpr_noUndecl sc b (fun n hn => h n (by simp [exprIds, hn]))
    exact hc.bind (fun _ => ha.bind (fun _ => hb.bind (fun _ => NoUndecl.pure _)))
theorem resolveExprs_noUndecl (sc : Scope) : ∀ (es : List Expr), (∀ n, n ∈ exprIdsL es → sc.contains n = true) →
    NoUndecl (resolveExprs sc es)
  | [], _ => by unfold resolveExprs; exact NoUndecl.pure _
  | e :: es, h => by
    unfold resolveExprs
    have he := resolveExpr_noUndecl sc e (fun n hn => h n (by simp [exprIdsL, hn]))
    have hes := resolveExprs_noUndecl sc es (fun n hn => h n (by simp [exprIdsL, hn]))
    exact he.bind (fun _ => hes.bind (fun _ => NoUndecl.pure _))
end


theorem eraseDups_nil {α : Type} [BEq α] [LawfulBEq α] {l : List α} (h : l.eraseDups = []) : l = [] := by
  cases l with
  | nil => rfl
  | cons a as =>
    have : a ∈ (a :: as).eraseDups := List.mem_eraseDups.mpr (List.mem_cons_self ..)
    rw [h] at this
    exact absurd this List.not_mem_nil

theorem free_nil {scope ids : List String} (h : ids.filter (fun n => !scope.contains n) = []) :
    ∀ n, n ∈ ids → n ∈ scope := by
  intro n hn
  have := List.filter_eq_nil_iff.mp h n hn
  simpa using this

theorem undeclared_item {m : Module} (h : m.undeclared = []) {it : Item} (hit : it ∈ m.items) :
    (match it with
      | .decl d => (declIds d).filter (fun n => !m.scope.contains n)
      | .param _ r _ v => (rangeIds r ++ exprIds v).filter (fun n => !m.scope.contains n)
      | .assign l r => (exprIds l ++ exprIds r).filter (fun n => !m.scope.contains n)
      | .always _ evs b => (evs.flatMap fun e => exprIds e.2).filter (fun n => !m.scope.contains n) ++ stmtFree m.scope b
      | .initial b => stmtFree m.scope b
      | .inst _ _ ps cs => ((connExprs ps).flatMap exprIds ++ (connExprs cs).flatMap exprIds).filter
          (fun n => !m.scope.contains n)) = [] := by
  unfold Module.undeclared at h
  have h' := eraseDups_nil h
  simp only [] at h'
  have := List.flatMap_eq_nil_iff.mp h' it hit
  cases it <;> exact this


end BMV.Vlog
