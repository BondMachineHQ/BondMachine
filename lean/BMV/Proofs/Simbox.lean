/-
  Lemmas for C15 (model: BMV/Simbox.lean).  Part 1: decimal round trip, colon-free words, the words
  of `Rule.String` and the decoder of `Add`, list surgery, the invariant of edit histories, rebuild.
  Part 2: the cell store, injection, suspended rules, compilation of set rules, show/get slots,
  compiled reports.
-/
import BMV.Simbox
namespace BMV.Simbox

/-! ### ticks as decimal text -/

theorem tick_roundtrip (t : Nat) (h : t < two64) : tickOfInt (intOfTick t) = t := by
  unfold tickOfInt intOfTick two64 two63 at *
  split <;> omega

theorem intOfTick_range (t : Nat) (h : t < two64) :
    -(two63 : Int) ≤ intOfTick t ∧ intOfTick t < (two63 : Int) := by
  unfold intOfTick two64 two63 at *
  split <;> omega

theorem tickOfInt_lt (i : Int) : tickOfInt i < two64 := by
  unfold tickOfInt two64
  omega

theorem repr_isDigit (n : Nat) : ∀ c ∈ n.repr.toList, c.isDigit = true := by
  rw [Nat.toList_repr]
  exact fun c => Nat.isDigit_of_mem_toDigits (by decide) (by decide)

theorem repr_ne_nil (n : Nat) : n.repr.toList ≠ [] := by
  rw [Nat.toList_repr]
  exact Nat.toDigits_ne_nil

theorem atoiNat_repr (n : Nat) : atoiNat n.repr.toList = some n := by
  unfold atoiNat
  rw [if_pos ⟨repr_ne_nil n, List.all_eq_true.mpr (repr_isDigit n)⟩]
  simp only [Nat.toList_repr, Nat.ofDigitChars_ten_toDigits]

theorem atoi_cons {s : String} {c : Char} {cs : List Char} (hs : s.toList = c :: cs) :
    atoi s =
      if c = '-' then (atoiNat cs).bind fun n => if n ≤ two63 then some (-(n : Int)) else none
      else (atoiNat (if c = '+' then cs else c :: cs)).bind fun n => if n < two63 then some (n : Int) else none := by
  rw [atoi, hs]
  split
  · rename_i heq
    injection heq with h1 h2
    rw [if_pos h1, h2]
    cases atoiNat _ <;> rfl
  · rename_i heq
    injection heq with h1 h2
    rw [h1, h2, if_neg (by decide), if_pos rfl]
    cases atoiNat _ <;> rfl
  · rename_i h1 h2
    rw [if_neg fun e => h1 cs (by rw [e]), if_neg fun e => h2 cs (by rw [e])]
    cases atoiNat _ <;> rfl

theorem atoi_itoa (i : Int) (h1 : -(two63 : Int) ≤ i) (h2 : i < (two63 : Int)) : atoi (itoa i) = some i := by
  by_cases hneg : i < 0
  · have e : ("-" ++ i.natAbs.repr).toList = '-' :: i.natAbs.repr.toList := by
      rw [String.toList_append]; rfl
    have hle : i.natAbs ≤ two63 := by omega
    have hi : -(i.natAbs : Int) = i := by omega
    rw [itoa, if_pos hneg, atoi_cons e, if_pos rfl, atoiNat_repr, Option.bind_some, if_pos hle, hi]
  · -- the first of the digits of `i` is a digit, not a sign
    have hlt : i.toNat < two63 := by omega
    have hi : (i.toNat : Int) = i := by omega
    rw [itoa, if_neg hneg]
    match hc : i.toNat.repr.toList, repr_ne_nil i.toNat with
    | c :: cs, _ =>
      have hd := repr_isDigit i.toNat c (hc ▸ List.mem_cons_self)
      rw [atoi_cons hc, if_neg (fun e => absurd (e ▸ hd) (by decide)), if_neg (fun e => absurd (e ▸ hd) (by decide)),
        ← hc, atoiNat_repr, Option.bind_some, if_pos hlt, hi]

theorem atoi_itoa_tick (t : Nat) (h : t < two64) : atoi (itoa (intOfTick t)) = some (intOfTick t) :=
  atoi_itoa _ (intOfTick_range t h).1 (intOfTick_range t h).2

/-! ### colon-free words -/

theorem splitOn_colonFree (cs : List Char) : ∀ w ∈ cs.splitOn ':', ':' ∉ w := by
  induction cs with
  | nil => simp [List.splitOn_nil]
  | cons c cs ih =>
    rw [List.splitOn_cons_eq_if_modifyHead]
    split
    · simpa using ih
    · rename_i hc
      have hne := List.splitOn_ne_nil ':' cs
      generalize cs.splitOn ':' = ls at *
      match ls with
      | w0 :: rest =>
        simp only [List.modifyHead_cons, List.mem_cons, forall_eq_or_imp, not_or] at ih ⊢
        exact ⟨⟨fun e => hc (beq_iff_eq.mpr e.symm), ih.1⟩, ih.2⟩

theorem splitStr_colonFree (s : String) : ∀ w ∈ splitStr s, colonFree w := by
  intro w hw
  unfold splitStr at hw
  simp only [List.mem_map] at hw
  obtain ⟨l, hl, rfl⟩ := hw
  unfold colonFree
  rw [String.toList_ofList]
  exact splitOn_colonFree _ l hl

theorem itoa_colonFree (i : Int) : colonFree (itoa i) := by
  have hr : ∀ n : Nat, ':' ∉ n.repr.toList := fun n h => absurd (repr_isDigit n _ h) (by decide)
  unfold colonFree itoa
  split
  · rw [String.toList_append]
    simp only [List.mem_append, not_or]
    exact ⟨by decide, hr _⟩
  · exact hr _

theorem timecKw_colonFree (t : Timec) : colonFree (timecKw t) := by cases t <;> decide
theorem actionKw_colonFree (a : Action) : colonFree (actionKw a) := by cases a <;> decide

/-! ### the keyword tables -/

theorem mem_bulk_not_plain : ∀ o ∈ bulkOptions, o ∉ plainOptions := by decide

theorem timedKw_some {w tc} (h : timedKw w = some tc) : tc = .abs ∨ tc = .rel := by
  unfold timedKw at h
  repeat' split at h
  all_goals cases h
  · exact .inl rfl
  · exact .inr rfl

theorem eventKw_some {w tc} (h : eventKw w = some tc) : tc = .onValid ∨ tc = .onRecv ∨ tc = .onExit := by
  unfold eventKw at h
  repeat' split at h
  all_goals cases h
  · exact .inl rfl
  · exact .inr (.inl rfl)
  · exact .inr (.inr rfl)

theorem timedAction_some {w a} (h : timedAction w = some a) : a = .set ∨ a = .get ∨ a = .show := by
  unfold timedAction at h
  repeat' split at h
  all_goals cases h
  · exact .inl rfl
  · exact .inr (.inl rfl)
  · exact .inr (.inr rfl)

theorem reportAction_some {w a} (h : reportAction w = some a) : a = .get ∨ a = .show := by
  unfold reportAction at h
  repeat' split at h
  all_goals cases h
  · exact .inl rfl
  · exact .inr rfl

/-! ### the words of `Rule.String` -/

theorem ruleWords_timed (r : Rule) (htc : r.timec = .abs ∨ r.timec = .rel)
    (ha : r.action = .set ∨ r.action = .get ∨ r.action = .show) :
    ruleWords r = [timecKw r.timec, itoa (intOfTick r.tick), actionKw r.action, r.object, r.extra] := by
  obtain ⟨tc, tk, a, o, e, s⟩ := r
  rcases htc with rfl | rfl <;> rcases ha with rfl | rfl | rfl <;> rfl

theorem ruleWords_event (r : Rule) (htc : r.timec = .onValid ∨ r.timec = .onRecv ∨ r.timec = .onExit)
    (ha : r.action = .get ∨ r.action = .show) :
    ruleWords r = [timecKw r.timec, actionKw r.action, r.object, r.extra] := by
  obtain ⟨tc, tk, a, o, e, s⟩ := r
  rcases htc with rfl | rfl | rfl <;> rcases ha with rfl | rfl <;> rfl

theorem ruleWords_config (r : Rule) (htc : r.timec = .notime) (ha : r.action = .config) :
    ruleWords r = if r.object ∈ bulkOptions then ["config", r.object, r.extra] else ["config", r.object] := by
  obtain ⟨tc, tk, a, o, e, s⟩ := r
  cases htc; cases ha; rfl

theorem ruleWords_ne_nil (r : Rule) : ruleWords r ≠ [] := by
  unfold ruleWords
  split <;> (try split) <;> simp

theorem ruleWords_colonFree (r : Rule) (h : RuleWF r) : ∀ w ∈ ruleWords r, colonFree w := by
  have hc : colonFree "config" := by decide
  rcases h.shape with ⟨htc, ha, _⟩ | ⟨htc, ha, _⟩ | ⟨htc, ha, _⟩
  · rw [ruleWords_timed r htc ha]
    simp only [List.mem_cons, List.not_mem_nil, or_false, forall_eq_or_imp, forall_eq]
    exact ⟨timecKw_colonFree _, itoa_colonFree _, actionKw_colonFree _, h.obj, h.ext⟩
  · rw [ruleWords_event r htc ha]
    simp only [List.mem_cons, List.not_mem_nil, or_false, forall_eq_or_imp, forall_eq]
    exact ⟨timecKw_colonFree _, actionKw_colonFree _, h.obj, h.ext⟩
  · rw [ruleWords_config r htc ha]
    split <;> simp only [List.mem_cons, List.not_mem_nil, or_false, forall_eq_or_imp, forall_eq]
    · exact ⟨hc, h.obj, h.ext⟩
    · exact ⟨hc, h.obj⟩

/-! ### the decoder of `Add` -/

theorem parseRule_timed {tc : Timec} {a : Action} (htc : tc = .abs ∨ tc = .rel)
    (ha : a = .set ∨ a = .get ∨ a = .show) {w : String} {t : Int} (hw : atoi w = some t) (o e : String) :
    parseRule [timecKw tc, w, actionKw a, o, e] = some ⟨tc, tickOfInt t, a, o, e, false⟩ := by
  rcases htc with rfl | rfl <;> rcases ha with rfl | rfl | rfl <;>
    simp [parseRule, timecKw, actionKw, timedKw, timedAction, hw]

theorem parseRule_event {tc : Timec} {a : Action} (htc : tc = .onValid ∨ tc = .onRecv ∨ tc = .onExit)
    (ha : a = .get ∨ a = .show) (o e : String) :
    parseRule [timecKw tc, actionKw a, o, e] = some ⟨tc, 0, a, o, e, false⟩ := by
  rcases htc with rfl | rfl | rfl <;> rcases ha with rfl | rfl <;>
    simp [parseRule, timecKw, actionKw, timedKw, eventKw, reportAction]

theorem parseRule_bulk {o : String} (h : o ∈ bulkOptions) (e : String) :
    parseRule ["config", o, e] = some ⟨.notime, 0, .config, o, e, false⟩ := by
  simp [parseRule, h]

theorem parseRule_plain {o : String} (h : o ∈ plainOptions) :
    parseRule ["config", o] = some ⟨.notime, 0, .config, o, "", false⟩ := by
  simp [parseRule, h]

theorem colonFree_unsigned : colonFree "unsigned" := by decide
theorem colonFree_empty : colonFree "" := by decide

theorem parseRule_wf (ws : List String) (r : Rule) (hcf : ∀ w ∈ ws, colonFree w)
    (h : parseRule ws = some r) : RuleWF r := by
  unfold parseRule at h
  split at h
  · rename_i w0 w1 w2 w3 w4
    split at h
    · rename_i tc a t h1 h2 h3
      injection h with h; subst h
      refine ⟨hcf w3 (by simp), hcf w4 (by simp), rfl, .inl ⟨timedKw_some h1, timedAction_some h2, tickOfInt_lt t⟩⟩
    · cases h
  · rename_i w0 w1 w2 w3
    split at h
    · rename_i tc h1
      split at h
      · rename_i a t h2 h3
        injection h with h; subst h
        refine ⟨hcf w3 (by simp), colonFree_unsigned, rfl, .inl ⟨timedKw_some h1, ?_, tickOfInt_lt t⟩⟩
        exact .inr (reportAction_some h2)
      · cases h
    · split at h
      · rename_i tc a h1 h2
        injection h with h; subst h
        exact ⟨hcf w2 (by simp), hcf w3 (by simp), rfl, .inr (.inl ⟨eventKw_some h1, reportAction_some h2, rfl⟩)⟩
      · cases h
  · rename_i w0 w1 w2
    split at h
    · split at h
      · rename_i hb
        injection h with h; subst h
        exact ⟨hcf w1 (by simp), hcf w2 (by simp), rfl, .inr (.inr ⟨rfl, rfl, rfl, .inl hb⟩)⟩
      · cases h
    · split at h
      · rename_i tc a h1 h2
        injection h with h; subst h
        exact ⟨hcf w2 (by simp), colonFree_unsigned, rfl, .inr (.inl ⟨eventKw_some h1, reportAction_some h2, rfl⟩)⟩
      · cases h
  · rename_i w0 w1
    split at h
    · rename_i hc
      injection h with h; subst h
      exact ⟨hcf w1 (by simp), colonFree_empty, rfl, .inr (.inr ⟨rfl, rfl, rfl, .inr ⟨hc.2, rfl⟩⟩)⟩
    · cases h
  · cases h

/-! ### rule list -/

theorem setSusp_idem (v : Bool) (r : Rule) (h : r.suspended = v) : setSusp v r = r := by
  cases r; simp_all [setSusp]

theorem setSusp_setSusp (v w : Bool) (r : Rule) : setSusp v (setSusp w r) = setSusp v r := by
  cases r; simp [setSusp]

theorem ruleString_setSusp (v : Bool) (r : Rule) : ruleString (setSusp v r) = ruleString r := by
  cases r; rfl

/-- `h` is the body of `suspend` (`f = setSusp true`) and of `reactivate` (`f = setSusp false`) -/
theorem modify_frame {b b' : Box} {i : Nat} {f : Rule → Rule}
    (h : (if i < b.length then some (b.modify i f) else none) = some b') :
    b'.length = b.length ∧ ∀ j, b'[j]? = if j = i then (b[j]?).map f else b[j]? := by
  split at h
  · cases h
    refine ⟨List.length_modify .., fun j => ?_⟩
    rw [List.getElem?_modify]
    by_cases hji : j = i
    · subst hji; simp
    · simp [hji, Ne.symm hji]
  · cases h

theorem modify_id_of (b : Box) (i : Nat) (f : Rule → Rule) (h : ∀ r, b[i]? = some r → f r = r) :
    b.modify i f = b := by
  apply List.ext_getElem?
  intro j
  rw [List.getElem?_modify]
  cases hb : b[j]? with
  | none => rfl
  | some r =>
    by_cases hij : i = j
    · subst hij; simp [h r hb]
    · simp [hij]

/-- every rule is one `Add` produced, up to its suspension flag -/
def BoxWF (b : Box) : Prop := ∀ r ∈ b, RuleWF (setSusp false r)

theorem boxWF_modify (b : Box) (i : Nat) (v : Bool) (h : BoxWF b) : BoxWF (b.modify i (setSusp v)) := by
  intro r hr
  obtain ⟨j, hj, rfl⟩ := List.mem_iff_getElem.mp hr
  simp only [List.getElem_modify]
  simp only [List.length_modify] at hj
  split
  · rw [setSusp_setSusp]; exact h _ (List.getElem_mem hj)
  · exact h _ (List.getElem_mem hj)

theorem boxWF_applyEdit (b : Box) (e : Edit) (h : BoxWF b) : BoxWF (applyEdit b e) := by
  cases e with
  | add s =>
    simp only [applyEdit, add]
    cases hr : addStr s with
    | none => exact h
    | some r =>
      have hwf := parseRule_wf _ r (splitStr_colonFree s) hr
      intro x hx
      simp only [Option.map_some, Option.getD_some, List.mem_append, List.mem_singleton] at hx
      rcases hx with hx | rfl
      · exact h x hx
      · rwa [setSusp_idem _ _ hwf.active]
  | del i =>
    simp only [applyEdit, del]
    split
    · exact fun x hx => h x (List.mem_of_mem_eraseIdx hx)
    · exact h
  | suspend i =>
    simp only [applyEdit, suspend]
    split
    · exact boxWF_modify b i true h
    · exact h
  | reactivate i =>
    simp only [applyEdit, reactivate]
    split
    · exact boxWF_modify b i false h
    · exact h

theorem boxWF_runEdits (es : List Edit) : ∀ b, BoxWF b → BoxWF (runEdits b es) := by
  induction es with
  | nil => exact fun b h => h
  | cons e es ih => exact fun b h => ih _ (boxWF_applyEdit b e h)

theorem rebuildStep_of_addStr (acc : Box) (r : Rule) (h : addStr (ruleString r) = some (setSusp false r)) :
    rebuildStep (some acc) r = some (acc ++ [r]) := by
  simp only [rebuildStep, add, h, Option.map_some]
  cases hs : r.suspended with
  | false => rw [setSusp_idem false r hs]; rfl
  | true =>
    unfold suspend
    rw [if_pos rfl, if_pos (by simp), List.modify_eq_take_cons_drop (by simp)]
    simp [setSusp_setSusp, setSusp_idem true r hs]

theorem rebuild_of_addStr (b : Box) (h : ∀ r ∈ b, addStr (ruleString r) = some (setSusp false r)) :
    rebuild b = some b := by
  have aux : ∀ acc : Box, b.foldl rebuildStep (some acc) = some (acc ++ b) := by
    induction b with
    | nil => simp
    | cons r rs ih =>
      intro acc
      rw [List.foldl_cons, rebuildStep_of_addStr acc r (h r List.mem_cons_self),
        ih (fun x hx => h x (List.mem_cons_of_mem _ hx)), List.append_assoc]
      rfl
  simpa [rebuild] using aux []

end BMV.Simbox

/-! ## Part 2 -/
namespace BMV.Simbox.Sim
open BMV.Simbox

/-! ### the store -/

theorem read_write (vm : Vm) (l l' : Loc) (v : Nat) :
    read (write vm l' v) l = if l = l' then (read vm l).map (fun _ => v) else read vm l := by
  induction vm with
  | nil => simp [write, read]
  | cons c rest ih =>
    obtain ⟨cl, cv⟩ := c
    simp only [write, List.map_cons] at ih ⊢
    by_cases h1 : cl = l'
    · subst h1
      simp only [if_true, read]
      by_cases h2 : cl = l
      · subst h2; simp
      · have : ¬ l = cl := fun e => h2 e.symm
        simp only [h2, this, if_false]
        rw [ih]; simp [this]
    · simp only [h1, if_false, read]
      by_cases h2 : cl = l
      · subst h2
        have : ¬ cl = l' := h1
        simp [this]
      · simp only [h2, if_false]; exact ih

theorem read_write_ne (vm : Vm) {l l' : Loc} (v : Nat) (h : l ≠ l') : read (write vm l' v) l = read vm l := by
  rw [read_write]; simp [h]

theorem ne_inValid {l : Loc} (hl : l.isFlag = false) (k : Nat) : l ≠ .inValid k :=
  fun e => by rw [e] at hl; cases hl

theorem ruleWrite_cases (vm : Vm) (l' : Loc) (v : Nat) :
    (l'.isFlag = true ∧ ruleWrite vm l' v = vm) ∨
    (∃ k, l' = .inReg k ∧ ruleWrite vm l' v = write (write vm l' v) (.inValid k) 1) ∨
    (l'.isFlag = false ∧ (∀ k, l' ≠ .inReg k) ∧ ruleWrite vm l' v = write vm l' v) := by
  cases l' <;> simp [ruleWrite, Loc.isFlag]

theorem read_ruleWrite (vm : Vm) (l l' : Loc) (v : Nat) (hl : l.isFlag = false) :
    read (ruleWrite vm l' v) l = if l = l' then (read vm l).map (fun _ => v) else read vm l := by
  rcases ruleWrite_cases vm l' v with ⟨hf, e⟩ | ⟨k, rfl, e⟩ | ⟨_, _, e⟩ <;> rw [e]
  · rw [if_neg (fun h => by rw [h, hf] at hl; cases hl)]
  · rw [read_write_ne _ _ (ne_inValid hl k), read_write]
  · rw [read_write]

theorem read_ruleWrite_valid (vm : Vm) (k : Nat) (l' : Loc) (v : Nat) :
    read (ruleWrite vm l' v) (.inValid k)
      = if l' = .inReg k then (read vm (.inValid k)).map (fun _ => 1) else read vm (.inValid k) := by
  rcases ruleWrite_cases vm l' v with ⟨hf, e⟩ | ⟨j, rfl, e⟩ | ⟨hf, hr, e⟩ <;> rw [e]
  · rw [if_neg (fun h => by rw [h] at hf; cases hf)]
  · rw [read_write, read_write_ne _ _ (by simp)]
    simp [eq_comm]
  · rw [read_write_ne _ _ (fun h => by rw [← h] at hf; cases hf), if_neg (hr k)]

theorem applyActs_cons (vm : Vm) (a : SetAct) (as : List SetAct) :
    applyActs vm (a :: as) = applyActs (ruleWrite vm a.loc a.val) as := rfl

theorem applyActs_append (vm : Vm) (as bs : List SetAct) :
    applyActs vm (as ++ bs) = applyActs (applyActs vm as) bs := by
  simp [applyActs, List.foldl_append]

/-- after a sequence of rule writes a non-flag cell holds the value of the *last* write that
    names it, and is untouched if none does -/
theorem read_applyActs (as : List SetAct) (vm : Vm) (l : Loc) (hl : l.isFlag = false) :
    read (applyActs vm as) l =
      match as.reverse.find? (fun a => a.loc = l) with
      | some a => (read vm l).map (fun _ => a.val)
      | none => read vm l := by
  induction as generalizing vm with
  | nil => simp [applyActs]
  | cons a as ih =>
    rw [applyActs_cons, ih, read_ruleWrite _ _ _ _ hl]
    simp only [List.reverse_cons, List.find?_append, List.find?_cons, List.find?_nil]
    cases hf : as.reverse.find? (fun a => a.loc = l) with
    | some b =>
      simp only [Option.some_or]
      split <;> (cases read vm l <;> rfl)
    | none =>
      simp only [Option.none_or]
      by_cases h : a.loc = l
      · have : l = a.loc := h.symm
        simp [h]
      · have : ¬ l = a.loc := fun e => h e.symm
        simp [h, this]

theorem find?_last {as : List SetAct} {l : Loc} {b : SetAct}
    (h : as.reverse.find? (fun a => a.loc = l) = some b) : b ∈ as ∧ b.loc = l :=
  ⟨List.mem_reverse.mp (List.mem_of_find?_eq_some h),
    of_decide_eq_true (List.find?_some (p := fun a : SetAct => decide (a.loc = l)) h)⟩

theorem read_applyActs_valid (as : List SetAct) (vm : Vm) (k : Nat) :
    read (applyActs vm as) (.inValid k) =
      if as.any (fun a => a.loc = .inReg k) then (read vm (.inValid k)).map (fun _ => 1)
      else read vm (.inValid k) := by
  induction as generalizing vm with
  | nil => simp [applyActs]
  | cons a as ih =>
    rw [applyActs_cons, ih, read_ruleWrite_valid]
    by_cases h : a.loc = .inReg k
    · simp only [h, if_true, List.any_cons, decide_true, Bool.true_or]
      split <;> (cases read vm (.inValid k) <;> rfl)
    · simp [h]

theorem read_clearValid (n : Nat) (vm : Vm) (l : Loc) (hl : ∀ k, l ≠ .inValid k) :
    read (clearValid n vm) l = read vm l := by
  unfold clearValid
  induction (List.range n) generalizing vm with
  | nil => rfl
  | cons k ks ih =>
    simp only [List.foldl_cons]
    rw [ih]
    split
    · exact read_write_ne _ _ (hl k)
    · rfl

/-! ### which actions fire -/

theorem mem_insertByTick (a b : SetAct) (l : List SetAct) : b ∈ insertByTick a l ↔ b = a ∨ b ∈ l := by
  induction l with
  | nil => simp [insertByTick]
  | cons c cs ih =>
    simp only [insertByTick]
    split
    · simp
    · simp only [List.mem_cons, ih]
      exact or_left_comm

theorem mem_sortByTick (b : SetAct) (l : List SetAct) : b ∈ sortByTick l ↔ b ∈ l := by
  induction l with
  | nil => simp [sortByTick]
  | cons c cs ih => simp [sortByTick, mem_insertByTick, ih]

/-! ### suspended rules -/

def active (b : Box) : Box := b.filter (fun r => !r.suspended)

/-- a function of the rule list that skips suspended rules, and whose value on `r :: rs` depends on
    `rs` only through its value there, does not see the suspended rules -/
theorem eq_on_active {β : Type} (F : Box → β) (skip : ∀ r rs, r.suspended = true → F (r :: rs) = F rs)
    (cong : ∀ r rs rs', F rs = F rs' → F (r :: rs) = F (r :: rs')) (b : Box) : F b = F (active b) := by
  induction b with
  | nil => rfl
  | cons r rs ih =>
    unfold active
    cases hs : r.suspended with
    | true => rw [List.filter_cons_of_neg (by simp [hs]), skip r rs hs]; exact ih
    | false => rw [List.filter_cons_of_pos (by simp [hs])]; exact cong r rs _ ih

theorem compileSets_active (sh : Shape) (b : Box) : compileSets sh b = compileSets sh (active b) :=
  eq_on_active (compileSets sh) (fun r rs h => by rw [compileSets, if_pos h])
    (fun r rs rs' h => by rw [compileSets, compileSets, h]) b

theorem compileConf_active (b : Box) : compileConf b = compileConf (active b) :=
  eq_on_active compileConf (fun r rs h => funext fun c => by rw [compileConf, if_pos h])
    (fun r rs rs' h => funext fun c => by rw [compileConf, compileConf, h]) b

theorem compileReport_active (sh : Shape) (bn : List String) (act : Action) (b : Box) :
    compileReport sh bn act b = compileReport sh bn act (active b) :=
  eq_on_active (compileReport sh bn act) (fun r rs h => funext fun rp => by rw [compileReport, if_pos h])
    (fun r rs rs' h => funext fun rp => by rw [compileReport, compileReport, h]) b

/-! ### set rules -/

/-- what `compileSets` produces, rule by rule -/
def setActOf (sh : Shape) (r : Rule) : Option SetAct :=
  match resolve sh r.object, importNumber r.extra, wbits sh.rsize with
  | some l, some n, some w => some ⟨r.timec = .rel, r.tick, l, n % 2 ^ w⟩
  | _, _, _ => none

def isSetRule (r : Rule) : Prop := r.suspended = false ∧ r.action = .set ∧ (r.timec = .abs ∨ r.timec = .rel)

instance (r : Rule) : Decidable (isSetRule r) := by unfold isSetRule; exact inferInstance

theorem compileSets_cons_ok {sh : Shape} {r : Rule} {rs : Box} {acts : List SetAct}
    (h : compileSets sh (r :: rs) = .ok acts) :
    (¬ isSetRule r ∧ compileSets sh rs = .ok acts) ∨
    (isSetRule r ∧ ∃ a acts', setActOf sh r = some a ∧ compileSets sh rs = .ok acts' ∧ acts = a :: acts') := by
  rw [compileSets] at h
  split at h
  · rename_i hs
    exact .inl ⟨fun hh => absurd hs (by rw [hh.1]; decide), h⟩
  · rename_i hs
    split at h
    · rename_i hset
      split at h
      · rename_i l n w h1 h2 h3
        split at h
        · rename_i acts' hrec
          cases h
          exact .inr ⟨⟨eq_false_of_ne_true hs, hset⟩, _, acts', by simp only [setActOf, h1, h2, h3], hrec, rfl⟩
        · cases h
      all_goals cases h
    · rename_i hset
      exact .inl ⟨fun hh => hset hh.2, h⟩

/-! ### show / get -/

theorem slotValues_cons_none {rp : Report} {vm : Vm} {i : Nat} {is : List Nat} (h : rp.slots[i]? = none) :
    slotValues rp vm (i :: is) = slotValues rp vm is := by
  rw [slotValues, h]

theorem slotValues_cons_flag {rp : Report} {vm : Vm} {i : Nat} {is : List Nat} {s : Slot}
    (h : rp.slots[i]? = some s) (hf : s.loc.isFlag = true) : slotValues rp vm (i :: is) = ([], true) := by
  rw [slotValues, h]
  exact if_pos hf

theorem slotValues_cons_some {rp : Report} {vm : Vm} {i : Nat} {is : List Nat} {s : Slot}
    (h : rp.slots[i]? = some s) (hf : s.loc.isFlag = false) :
    slotValues rp vm (i :: is) =
      ((i, s.ty, readD vm s.loc) :: (slotValues rp vm is).1, (slotValues rp vm is).2) := by
  rw [slotValues, h]
  exact if_neg (ne_true_of_eq_false hf)

theorem iteration_done (step : Vm → Vm) (c : Compiled) (stopOn : Option Nat) (report : Bool) (s : LoopSt) (t : Nat)
    (h : s.done = true) : iteration step c stopOn report s t = s := by
  simp [iteration, h]

/-! ### compiled reports -/

structure Ext (rp rp' : Report) : Prop where
  slots : ∃ ex, rp'.slots = rp.slots ++ ex
  watches : ∀ w ∈ rp.watches, w ∈ rp'.watches

theorem Ext.refl (rp : Report) : Ext rp rp := ⟨⟨[], by simp⟩, fun _ h => h⟩

theorem Ext.trans {a b c : Report} (h1 : Ext a b) (h2 : Ext b c) : Ext a c := by
  obtain ⟨⟨e1, h1s⟩, h1w⟩ := h1
  obtain ⟨⟨e2, h2s⟩, h2w⟩ := h2
  exact ⟨⟨e1 ++ e2, by rw [h2s, h1s, List.append_assoc]⟩, fun w h => h2w w (h1w w h)⟩

theorem Ext.slot {rp rp' : Report} (h : Ext rp rp') {i : Nat} {s : Slot} (hs : rp.slots[i]? = some s) :
    rp'.slots[i]? = some s := by
  obtain ⟨⟨e, he⟩, _⟩ := h
  obtain ⟨hi, _⟩ := List.getElem?_eq_some_iff.mp hs
  rw [he, List.getElem?_append_left hi]; exact hs

theorem addSlot_ext (rp : Report) (l : Loc) (e n : String) : Ext rp (addSlot rp l e n).1 := by
  unfold addSlot
  split
  · exact Ext.refl rp
  · exact ⟨⟨[⟨l, typeOf e, n⟩], rfl⟩, fun _ h => h⟩

theorem addSlot_slot (rp : Report) (l : Loc) (e n : String) :
    ∃ s, (addSlot rp l e n).1.slots[(addSlot rp l e n).2]? = some s ∧ s.loc = l := by
  unfold addSlot
  split
  · rename_i i hi
    unfold slotOf at hi
    split at hi
    · cases hi
    · obtain ⟨hlt, hp, _⟩ := List.findIdx?_eq_some_iff_getElem.mp hi
      refine ⟨rp.slots[i], by simp [List.getElem?_eq_getElem hlt], by simpa using hp⟩
  · exact ⟨⟨l, typeOf e, n⟩, by simp, rfl⟩

theorem addWatch_ext (rp : Report) (l : Loc) (e n : String) (w : When) : Ext rp (addWatch rp l e n w) := by
  unfold addWatch
  obtain ⟨hs, hw⟩ := addSlot_ext rp l e n
  exact ⟨hs, fun x hx => by simp [hw x hx]⟩

theorem addWatch_spec (rp : Report) (l : Loc) (e n : String) (w : When) :
    ∃ i s, (addWatch rp l e n w).slots[i]? = some s ∧ s.loc = l ∧ ⟨i, w⟩ ∈ (addWatch rp l e n w).watches := by
  obtain ⟨s, hs, hl⟩ := addSlot_slot rp l e n
  exact ⟨(addSlot rp l e n).2, s, by simpa [addWatch] using hs, hl, by simp [addWatch]⟩

theorem addObjects_ext (sh : Shape) (objs : List String) (e : String) (rp : Report) :
    Ext rp (addObjects sh rp objs e) := by
  unfold addObjects
  induction objs generalizing rp with
  | nil => exact Ext.refl rp
  | cons o os ih =>
    simp only [List.foldl_cons]
    split
    · exact Ext.trans (addSlot_ext rp _ e o) (ih _)
    · exact ih rp

theorem compileReport_cons (sh : Shape) (bn : List String) (act : Action) (r : Rule) (rs : Box) (rp rp' : Report)
    (h : compileReport sh bn act (r :: rs) rp = .ok rp') :
    ∃ rp1, Ext rp rp1 ∧ compileReport sh bn act rs rp1 = .ok rp' := by
  generalize hb : r :: rs = b at h
  revert h
  -- one case per branch of `compileReport`, with the branch's result in place of the call
  fun_cases compileReport sh bn act b rp
  all_goals intro h; cases hb
  all_goals first
    | (cases h; done)
    | exact ⟨_, Ext.refl rp, h⟩
    | exact ⟨_, addObjects_ext sh _ _ rp, h⟩
    | exact ⟨_, addWatch_ext rp _ _ _ _, h⟩
    | exact ⟨_, addSlot_ext rp _ _ _, h⟩

theorem compileReport_ext (sh : Shape) (bn : List String) (act : Action) (b : Box) (rp rp' : Report)
    (h : compileReport sh bn act b rp = .ok rp') : Ext rp rp' := by
  induction b generalizing rp with
  | nil => rw [compileReport] at h; cases h; exact Ext.refl _
  | cons r rs ih =>
    obtain ⟨rp1, h1, h2⟩ := compileReport_cons sh bn act r rs rp rp' h
    exact Ext.trans h1 (ih rp1 h2)

/-- from rule to watch: an active show/get rule whose object resolves owns, in the compiled report,
    a slot for that element and a watch on it with the trigger of its kind — its tick, its period,
    the rising edge of its valid flag (when that resolves), the exit -/
theorem rule_is_watched (sh : Shape) (bn : List String) (act : Action) (b : Box) (rp rp' : Report)
    (h : compileReport sh bn act b rp = .ok rp') (r : Rule) (hr : r ∈ b) (hs : r.suspended = false)
    (ha : r.action = act) (l : Loc) (hl : resolve sh r.object = some l) (w : When)
    (hw : (r.timec = .abs ∧ w = .at r.tick) ∨ (r.timec = .rel ∧ w = .every r.tick) ∨
      (r.timec = .onValid ∧ ∃ f, validFlagOf sh r.object = some f ∧ w = .onValid f) ∨
      (r.timec = .onExit ∧ w = .onExit)) :
    ∃ i s, rp'.slots[i]? = some s ∧ s.loc = l ∧ ⟨i, w⟩ ∈ rp'.watches := by
  induction b generalizing rp with
  | nil => cases hr
  | cons x xs ih =>
    rcases List.mem_cons.mp hr with rfl | hr
    · -- the rule is at the head: its watch is added, the rest only extends the report
      have hrest : compileReport sh bn act xs (addWatch rp l r.extra r.object w) = .ok rp' := by
        rw [compileReport] at h
        rcases hw with ⟨htc, rfl⟩ | ⟨htc, rfl⟩ | ⟨htc, f, hf, rfl⟩ | ⟨htc, rfl⟩
        all_goals
          simp only [hs, htc, ha, hl, reduceCtorEq, false_and, if_false, if_true, Bool.false_eq_true] at h
        · split at h
          · cases h
          · exact h
        · split at h
          · cases h
          · exact h
        · rw [hf] at h; exact h
        · exact h
      have hext := compileReport_ext sh bn act xs _ rp' hrest
      obtain ⟨i, s, h1, h2, h3⟩ := addWatch_spec rp l r.extra r.object w
      exact ⟨i, s, hext.slot h1, h2, hext.watches _ h3⟩
    · obtain ⟨rp1, _, h2⟩ := compileReport_cons sh bn act x xs rp rp' h
      exact ih rp1 h2 hr

end BMV.Simbox.Sim
