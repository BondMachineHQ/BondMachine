/-
  BMV.Proofs.Quantum — lemmas behind C14.

  Part A: the per-layer certificate `checkLayer` (decidable, index level) and the general lemma
          `layer_of_check`: if the certificate holds for the argument lists of a layer then, over every
          lawful commutative semiring and for every choice of gate matrices, the model of
          `BmMatrixFromOperation` returns a 2^n matrix whose entries are those of `layerRef`.
          Of the certificate, the length of the local order and the index map of the swaps hold for
          every plan (`plan_tracks`), and the identity-qubit conjuncts follow once every line has one
          factor (`slots_cover`); `checkShape` is what is left to evaluate per layer shape.
  Part B: enumeration `genLayers` of all layer shapes and its completeness.
  Part C: `layerRef` = product of the `embed`s, product of the compiled layers = `Uref`
          (matrix algebra and basis indices: BMV.Proofs.QuantumAlgebra).
-/
import BMV.Proofs.QuantumAlgebra

namespace BMV.Quantum
open MulOps Ops

/-! ## Part A -/

def idxBase (bs : List (Nat × Nat)) (i : Nat) : Nat := bs.foldr (fun b x => tr b.1 b.2 x) i

/-- the basis-index map realised by the whole "swaps back" loop -/
def permOf (n : Nat) (sw : List (Nat × Nat)) (i : Nat) : Nat :=
  sw.reverse.foldr (fun s x => idxBase (baseSwaps n s) x) i

/-- which qubits every tensor factor stands for, read off the final local order; checks that a gate
    factor sits exactly on its arguments, in order -/
def slotsOf (L : List (List Nat)) : List (Option Nat) → List Nat → Option (List (Option Nat × List Nat))
  | [], loc => if loc.isEmpty then some [] else none
  | none :: fs, loc =>
    match loc with
    | u :: rest => (slotsOf L fs rest).map ((none, [u]) :: ·)
    | [] => none
  | some k :: fs, loc =>
    match L[k]? with
    | none => none
    | some args =>
      if loc.take args.length == args then (slotsOf L fs (loc.drop args.length)).map ((some k, args) :: ·)
      else none

def idQubits (sl : List (Option Nat × List Nat)) : List Nat := (sl.filter (·.1.isNone)).flatMap (·.2)

/-- the certificate for one layer shape -/
def checkLayer (n : Nat) (L : List (List Nat)) : Bool :=
  match plan false n L with
  | none => false
  | some p =>
    match slotsOf L p.factors p.loc with
    | none => false
    | some slots =>
      let idq := idQubits slots
      p.loc.length == n
      && !p.factors.isEmpty
      && (List.range (2 ^ n)).all (fun i => permOf n p.swaps i == locIdx n p.loc i)
      && (p.factors.filterMap id).isPerm (List.range L.length)
      && (List.range n).all (fun a => (L.flatten.contains a) != (idq.contains a))
      && idq.all (· < n)

theorem slotsOf_nil {L : List (List Nat)} {loc : List Nat} {sl : List (Option Nat × List Nat)}
    (h : slotsOf L [] loc = some sl) : loc = [] ∧ sl = [] := by
  simp only [slotsOf] at h
  split at h
  · rename_i hl; cases h; exact ⟨by simpa using hl, rfl⟩
  · cases h

theorem slotsOf_cons {L : List (List Nat)} {f : Option Nat} {fs : List (Option Nat)} {loc : List Nat}
    {sl : List (Option Nat × List Nat)} :
    slotsOf L (f :: fs) loc = some sl →
    ∃ T rest sl', loc = T ++ rest ∧ sl = (f, T) :: sl' ∧ slotsOf L fs rest = some sl' ∧
      match f with | none => ∃ u, T = [u] | some k => L[k]? = some T := by
  intro h
  cases f with
  | none =>
    simp only [slotsOf] at h
    cases loc with
    | nil => cases h
    | cons u rest =>
      simp only [Option.map_eq_some_iff] at h
      obtain ⟨sl', hs', rfl⟩ := h
      exact ⟨[u], rest, sl', rfl, rfl, hs', u, rfl⟩
  | some k =>
    simp only [slotsOf] at h
    cases hk : L[k]? with
    | none => rw [hk] at h; cases h
    | some args =>
      rw [hk] at h
      simp only at h
      split at h
      · rename_i htake
        simp only [Option.map_eq_some_iff] at h
        obtain ⟨sl', hs', rfl⟩ := h
        have htake' : loc.take args.length = args := by simpa using htake
        refine ⟨args, loc.drop args.length, sl', ?_, rfl, hs', hk⟩
        conv => lhs; rw [← List.take_append_drop args.length loc, htake']
      · cases h

theorem slotsOf_tags (L : List (List Nat)) :
    ∀ (fs : List (Option Nat)) (loc : List Nat) (sl : List (Option Nat × List Nat)),
      slotsOf L fs loc = some sl → sl.map (·.1) = fs := by
  intro fs
  induction fs with
  | nil => intro loc sl h; rw [(slotsOf_nil h).2]; rfl
  | cons f fs ih =>
    intro loc sl h
    obtain ⟨T, rest, sl', -, rfl, hs', -⟩ := slotsOf_cons h
    rw [List.map_cons, ih rest sl' hs']

section lemmas
variable {R : Type}

theorem applyBase_eq (a : Mat R) (bs : List (Nat × Nat)) :
    applyBase a bs = fun i j => a (idxBase bs i) (idxBase bs j) := by
  induction bs generalizing a with
  | nil => rfl
  | cons b bs ih =>
    show applyBase (swapRC a b.1 b.2) bs = _
    rw [ih]; rfl

theorem undoSwaps_eq (n : Nat) (a : Mat R) (sw : List (Nat × Nat)) :
    undoSwaps n a sw = fun i j => a (permOf n sw i) (permOf n sw j) := by
  unfold undoSwaps permOf
  generalize sw.reverse = l
  induction l generalizing a with
  | nil => rfl
  | cons s l ih =>
    show List.foldl _ (applyBase a (baseSwaps n s)) l = _
    rw [ih, applyBase_eq]; rfl

end lemmas

/-! ### the recorded swaps follow the local order

Every exchange of two positions of `localQBits` is recorded, and the recorded swaps are undone on
the basis indices; so whatever the control flow of `plan`, undoing its swaps is reading the index in
the final local order.  This is the part of `checkLayer` that needs no enumeration. -/

def swapBits (p q x : Nat) : Nat :=
  if x.testBit p != x.testBit q then (x ^^^ 2 ^ p) ^^^ 2 ^ q else x

theorem tr_tr (p q r : Nat) : tr p q (tr p q r) = r := by
  unfold tr
  by_cases h1 : r = p
  · subst h1; by_cases h2 : q = r <;> simp [h2]
  · by_cases h2 : r = q
    · subst h2; simp [h1]
    · simp [h1, h2]

theorem tr_left (p q : Nat) : tr p q p = q := if_pos rfl

theorem tr_right (p q : Nat) : tr p q q = p := by
  unfold tr; split <;> simp_all

theorem testBit_swapBits (p q x r : Nat) : (swapBits p q x).testBit r = x.testBit (tr p q r) := by
  unfold swapBits tr
  split
  · rename_i h
    rw [Nat.testBit_xor, Nat.testBit_xor, Nat.testBit_two_pow, Nat.testBit_two_pow]
    by_cases h1 : r = p <;> by_cases h2 : r = q <;> simp_all [Ne.symm, Bool.eq_not]
  · rename_i h
    by_cases h1 : r = p <;> by_cases h2 : r = q <;> simp_all

theorem swapBits_swapBits (p q x : Nat) : swapBits p q (swapBits p q x) = x :=
  Nat.eq_of_testBit_eq fun r => by rw [testBit_swapBits, testBit_swapBits, tr_tr]

theorem swapBits_lt {n p q x : Nat} (hx : x < 2 ^ n) (hp : p < n) (hq : q < n) :
    swapBits p q x < 2 ^ n := by
  apply Nat.lt_pow_two_of_testBit
  intro i hi
  rw [testBit_swapBits, tr, if_neg (by omega), if_neg (by omega)]
  exact Nat.testBit_lt_two_pow (Nat.lt_of_lt_of_le hx (Nat.pow_le_pow_right (by omega) hi))


theorem idxBase_snoc (bs : List (Nat × Nat)) (b : Nat × Nat) (x : Nat) :
    idxBase (bs ++ [b]) x = idxBase bs (tr b.1 b.2 x) := by
  simp only [idxBase, List.foldr_append, List.foldr_cons, List.foldr_nil]

/-- The loop of `swaps2baseSwaps` pairs every index whose two bits differ with its partner exactly
    once: `done` holds the paired indices, and the transpositions collected so far exchange them. -/
theorem idxBase_baseSwapsAux (n s1 s2 : Nat) {p q : Nat} (hp : n - 1 - s1 = p) (hq : n - 1 - s2 = q) :
    ∀ (f i : Nat) (done : List Nat) (acc : List (Nat × Nat)),
    (∀ x, idxBase acc.reverse x = if x ∈ done then swapBits p q x else x) →
    (∀ x ∈ done, x.testBit p ≠ x.testBit q ∧ swapBits p q x ∈ done) →
    (∀ x, x < i → x.testBit p ≠ x.testBit q → x ∈ done) →
    ∀ x, x < i + f → idxBase (baseSwapsAux n s1 s2 f i done acc) x = swapBits p q x := by
  intro f
  induction f with
  | zero =>
    intro i done acc h1 h2 h3 x hx
    rw [baseSwapsAux, h1]
    by_cases hd : x.testBit p = x.testBit q
    · rw [if_neg (fun hm => (h2 x hm).1 hd), swapBits, if_neg (by simpa using hd)]
    · rw [if_pos (h3 x hx hd)]
  | succ f ih =>
    intro i done acc h1 h2 h3 x hx
    rw [baseSwapsAux]
    simp only [qbit, hp, hq]
    have hx' : x < i + 1 + f := by omega
    -- no new pair: `i` is paired already, or its two bits agree
    have keep : (i.testBit p ≠ i.testBit q → i ∈ done) →
        idxBase (baseSwapsAux n s1 s2 f (i + 1) done acc) x = swapBits p q x := fun hi =>
      ih (i + 1) done acc h1 h2
        (fun y hy hd => if e : y = i then e ▸ hi (e ▸ hd) else h3 y (by omega) hd) x hx'
    split
    · rename_i hi
      exact keep fun _ => by simpa using hi
    · rename_i hi
      have hi : i ∉ done := by simpa using hi
      split
      · rename_i hd
        have hd : i.testBit p ≠ i.testBit q := by simpa using hd
        -- `i` is paired with `j`, the index with both bits flipped
        have hj : (i ^^^ 2 ^ p) ^^^ 2 ^ q = swapBits p q i := by
          rw [swapBits, if_pos (by simpa using hd)]
        rw [hj]
        generalize hjdef : swapBits p q i = j
        have hji : swapBits p q j = i := by rw [← hjdef, swapBits_swapBits]
        have hjd : j.testBit p ≠ j.testBit q := by
          rw [← hjdef, testBit_swapBits, testBit_swapBits, tr_left, tr_right]
          exact fun e => hd e.symm
        have hjn : j ∉ done := fun hm => hi (hji ▸ (h2 j hm).2)
        refine ih (i + 1) (i :: j :: done) ((i, j) :: acc) ?_ ?_ ?_ x hx'
        · intro y
          rw [List.reverse_cons, idxBase_snoc, h1]
          simp only [tr, List.mem_cons]
          by_cases e1 : y = i
          · subst e1; simp [hjn, hjdef]
          · by_cases e2 : y = j
            · subst e2; simp [e1, hi, hji]
            · simp [e1, e2]
        · intro y hy
          simp only [List.mem_cons] at hy ⊢
          rcases hy with rfl | rfl | hy
          · exact ⟨hd, Or.inr (Or.inl hjdef)⟩
          · exact ⟨hjd, Or.inl hji⟩
          · exact ⟨(h2 y hy).1, Or.inr (Or.inr (h2 y hy).2)⟩
        · intro y hy hd'
          simp only [List.mem_cons]
          by_cases e : y = i
          · exact Or.inl e
          · exact Or.inr (Or.inr (h3 y (by omega) hd'))
      · rename_i hd
        have hd : i.testBit p = i.testBit q := by simpa using hd
        exact keep fun hd' => absurd hd hd'

theorem idxBase_baseSwaps (n : Nat) (s : Nat × Nat) (x : Nat) (hx : x < 2 ^ n) :
    idxBase (baseSwaps n s) x = swapBits (n - 1 - s.1) (n - 1 - s.2) x :=
  idxBase_baseSwapsAux n s.1 s.2 rfl rfl (2 ^ n) 0 [] [] (fun _ => rfl) (fun _ h => nomatch h)
    (fun _ h => absurd h (Nat.not_lt_zero _)) x (by omega)

/-- the recorded swaps and the local order describe the same rearrangement of the qubits -/
def Tracks (n : Nat) (loc : List Nat) (sw : List (Nat × Nat)) : Prop :=
  loc.Perm (List.range n) ∧ ∀ i, i < 2 ^ n → permOf n sw i = locIdx n loc i

theorem Tracks.length {n : Nat} {loc : List Nat} {sw : List (Nat × Nat)} (h : Tracks n loc sw) :
    loc.length = n :=
  h.1.length_eq.trans List.length_range

theorem tracks_init (n : Nat) : Tracks n (List.range n) [] := by
  refine ⟨List.Perm.refl _, fun i hi => ?_⟩
  have hl := locIdx_lt n i (List.range n)
  rw [List.length_range] at hl
  refine eq_of_qbit_eq hi hl (fun a ha => ?_)
  have := testBit_locIdx n i (List.range n) a a (by simp [ha])
  rw [List.length_range] at this
  exact this.symm

theorem permOf_snoc (n : Nat) (sw : List (Nat × Nat)) (s : Nat × Nat) (i : Nat) :
    permOf n (sw ++ [s]) i = idxBase (baseSwaps n s) (permOf n sw i) := by
  simp only [permOf, List.reverse_append, List.reverse_cons, List.reverse_nil, List.nil_append,
    List.cons_append, List.foldr_cons]

theorem qbit_swapBits {n a b k : Nat} (ha : a < n) (hb : b < n) (hk : k < n) (x : Nat) :
    qbit n k (swapBits (n - 1 - a) (n - 1 - b) x) = qbit n (tr a b k) x := by
  rw [qbit, qbit, testBit_swapBits]
  congr 1
  unfold tr
  by_cases e1 : k = a
  · rw [if_pos (by rw [e1]), if_pos e1]
  · rw [if_neg (fun h => e1 (by omega)), if_neg e1]
    by_cases e2 : k = b
    · rw [if_pos (by rw [e2]), if_pos e2]
    · rw [if_neg (fun h => e2 (by omega)), if_neg e2]

theorem swapPos_spec {loc loc' : List Nat} {q lq : Nat} (hs : swapPos loc q lq = some loc') :
    q < loc.length ∧ lq < loc.length ∧ loc'.length = loc.length ∧ ∀ k, loc'[k]? = loc[tr q lq k]? := by
  unfold swapPos at hs
  split at hs
  · rename_i a b ha hb
    cases hs
    have hq := (List.getElem?_eq_some_iff.mp ha).1
    have hlq := (List.getElem?_eq_some_iff.mp hb).1
    refine ⟨hq, hlq, by simp, fun k => ?_⟩
    simp only [List.getElem?_set, tr, List.length_set, hlq, hq, if_true]
    by_cases e1 : k = lq
    · subst e1; by_cases e2 : k = q
      · subst e2; simp [ha]
      · simp [e2, ha]
    · by_cases e2 : k = q
      · subst e2; simp [Ne.symm e1, hb]
      · simp [e1, e2, Ne.symm e1, Ne.symm e2]
  · cases hs

theorem swapPos_perm {loc loc' : List Nat} {q lq : Nat} (hs : swapPos loc q lq = some loc') :
    loc'.Perm loc := by
  unfold swapPos at hs
  split at hs
  · rename_i a b ha hb
    cases hs
    obtain ⟨hq, ea⟩ := List.getElem?_eq_some_iff.mp ha
    obtain ⟨hlq, eb⟩ := List.getElem?_eq_some_iff.mp hb
    rw [List.perm_iff_count]
    intro x
    have hax : (if a == x then 1 else 0) ≤ loc.count x := by
      split
      · rename_i h; rw [← beq_iff_eq.mp h, ← ea]; exact List.count_pos_iff.mpr (List.getElem_mem hq)
      · omega
    rw [List.count_set (by rwa [List.length_set]), List.count_set hq, List.getElem_set, ea, eb, ite_self]
    omega
  · cases hs

theorem tracks_swap {n : Nat} {loc loc' : List Nat} {sw : List (Nat × Nat)} {q lq : Nat}
    (h : Tracks n loc sw) (hs : swapPos loc q lq = some loc') : Tracks n loc' (sw ++ [(q, lq)]) := by
  have hlen := h.length
  obtain ⟨hpm, hperm⟩ := h
  obtain ⟨hq, hlq, hlen', hget⟩ := swapPos_spec hs
  rw [hlen] at hq hlq hlen'
  refine ⟨(swapPos_perm hs).trans hpm, fun i hi => ?_⟩
  have hl := hlen ▸ locIdx_lt n i loc
  rw [permOf_snoc, hperm i hi, idxBase_baseSwaps n _ _ hl]
  refine eq_of_qbit_eq (swapBits_lt hl (by omega) (by omega)) (hlen' ▸ locIdx_lt n i loc') fun k hk => ?_
  -- position `k` of the new order holds the qubit that stood at position `tr q lq k`
  have hk' : tr q lq k < n := by unfold tr; split_ifs <;> omega
  obtain ⟨u, hu⟩ : ∃ u, loc[tr q lq k]? = some u := ⟨_, List.getElem?_eq_getElem (by omega)⟩
  have e1 := testBit_locIdx n i loc _ u hu
  have e2 := testBit_locIdx n i loc' k u (hget k ▸ hu)
  rw [hlen] at e1
  rw [hlen'] at e2
  rw [qbit_swapBits hq hlq hk]
  exact e1.trans e2.symm

theorem argLoop_tracks (n : Nat) : ∀ (r i : Nat) (lo : List Nat) (q : Nat) (loc : List Nat)
    (sw : List (Nat × Nat)) (res : Nat × List Nat × List (Nat × Nat)),
    Tracks n loc sw → argLoop r i lo q loc sw = some res → Tracks n res.2.1 res.2.2 := by
  intro r
  induction r with
  | zero => intro i lo q loc sw res h e; cases e; exact h
  | succ r ih =>
    intro i lo q loc sw res h e
    rw [argLoop] at e
    split at e
    · cases e
    · simp only at e
      split at e
      · split at e
        · cases e
        · rename_i hs
          exact ih _ _ _ _ _ _ (tracks_swap h hs) e
      · exact ih _ _ _ _ _ _ h e

theorem walk_tracks (stale : Bool) (n : Nat) (L : List (List Nat)) : ∀ (f q : Nat) (loc : List Nat)
    (sw : List (Nat × Nat)) (fac : List (Option Nat)) (p : Plan),
    Tracks n loc sw → walk stale n L f q loc sw fac = some p → Tracks n p.loc p.swaps := by
  intro f
  induction f with
  | zero =>
    intro q loc sw fac p h e
    rw [walk] at e
    split at e
    · cases e; exact h
    · cases e
  | succ f ih =>
    intro q loc sw fac p h e
    rw [walk] at e
    split at e
    · cases e; exact h
    · split at e
      · cases e
      · split at e
        · exact ih _ _ _ _ _ h e
        · simp only at e
          split at e
          · exact ih _ _ _ _ _ h e
          · split at e
            · cases e
            · rename_i ha
              exact ih _ _ _ _ _ (argLoop_tracks n _ _ _ _ _ _ _ h ha) e

theorem plan_tracks {stale : Bool} {n : Nat} {L : List (List Nat)} {p : Plan}
    (h : plan stale n L = some p) : Tracks n p.loc p.swaps :=
  walk_tracks stale n L _ _ _ _ _ p (tracks_init n) h

theorem slotsOf_keys {L : List (List Nat)} {fs : List (Option Nat)} {loc : List Nat}
    {sl : List (Option Nat × List Nat)} (h : slotsOf L fs loc = some sl) :
    sl.filterMap (·.1) = fs.filterMap id := by
  rw [← slotsOf_tags L fs loc sl h, List.filterMap_map]; rfl

theorem slotsOf_split (L : List (List Nat)) :
    ∀ (fs : List (Option Nat)) (loc : List Nat) (sl : List (Option Nat × List Nat)),
      slotsOf L fs loc = some sl →
      loc.Perm ((sl.filterMap (·.1)).flatMap (fun k => L.getD k []) ++ idQubits sl) := by
  intro fs
  induction fs with
  | nil => intro loc sl h; obtain ⟨rfl, rfl⟩ := slotsOf_nil h; exact List.Perm.refl _
  | cons f fs ih =>
    intro loc sl h
    obtain ⟨T, rest, sl', rfl, rfl, hs', hT⟩ := slotsOf_cons h
    have := ih rest sl' hs'
    cases f with
    | none =>
      obtain ⟨u, rfl⟩ := hT
      exact (List.Perm.cons u this).trans List.perm_middle.symm
    | some k =>
      simp only [List.filterMap_cons, List.flatMap_cons, List.getD_eq_getElem?_getD, hT,
        Option.getD_some, List.append_assoc]
      exact List.Perm.append_left T this

theorem flatMap_range_getD (L : List (List Nat)) :
    (List.range L.length).flatMap (fun k => L.getD k []) = L.flatten := by
  rw [List.flatMap_def]
  congr 1
  apply List.ext_getElem
  · simp
  · intro k h1 h2
    simp [List.getElem?_eq_getElem (by simpa using h1 : k < L.length)]

/-- When every line has exactly one factor, the arguments of the lines and the qubits under identity
    factors together are the declared qubits, each once: the slots partition the local order, which
    is a rearrangement of `range n` (`plan_tracks`). -/
theorem slots_cover {stale : Bool} {n : Nat} {L : List (List Nat)} {p : Plan}
    {sl : List (Option Nat × List Nat)} (hp : plan stale n L = some p)
    (hsl : slotsOf L p.factors p.loc = some sl)
    (hks : (sl.filterMap (·.1)).Perm (List.range L.length)) :
    (L.flatten ++ idQubits sl).Perm (List.range n) := by
  have h1 := (slotsOf_split L _ _ _ hsl).symm.trans (plan_tracks hp).1
  have h2 := hks.flatMap_right (fun k => L.getD k [])
  rw [flatMap_range_getD] at h2
  exact (h2.symm.append_right _).trans h1

/-- the two Boolean conjuncts of `checkLayer` about the identity qubits -/
theorem cover_checks {n : Nat} {touched idq : List Nat} (h : (touched ++ idq).Perm (List.range n)) :
    ((List.range n).all (fun a => touched.contains a != idq.contains a) && idq.all (· < n)) = true := by
  have hnd := List.nodup_append.mp (h.nodup_iff.mpr List.nodup_range)
  rw [Bool.and_eq_true, List.all_eq_true, List.all_eq_true]
  refine ⟨fun a ha => ?_, fun u hu => ?_⟩
  · rcases List.mem_append.mp (h.mem_iff.mpr ha) with ht | hi
    · have : a ∉ idq := fun hi => hnd.2.2 a ht a hi rfl
      simp [ht, this]
    · have : a ∉ touched := fun ht => hnd.2.2 a ht a hi rfl
      simp [hi, this]
  · simpa using h.mem_iff.mp (List.mem_append_right _ hu)

/-- What of `checkLayer` depends on the control flow of `plan`: each gate factor sits on its arguments,
    in order, and every line has exactly one factor. The other conjuncts follow for every plan
    (`plan_tracks`, `slots_cover`). The certificates evaluate this one, `layer_of_check` reads its
    conjuncts; `checkLayer_eq_checkShape` is how both pass between the two. -/
def checkShape (n : Nat) (L : List (List Nat)) : Bool :=
  match plan false n L with
  | none => false
  | some p =>
    (slotsOf L p.factors p.loc).isSome
    && !p.factors.isEmpty
    && (p.factors.filterMap id).isPerm (List.range L.length)

theorem checkLayer_eq_checkShape (n : Nat) (L : List (List Nat)) : checkLayer n L = checkShape n L := by
  unfold checkLayer checkShape
  cases hp : plan false n L with
  | none => rfl
  | some p =>
    have ht := plan_tracks hp
    have hsweep : (List.range (2 ^ n)).all (fun i => permOf n p.swaps i == locIdx n p.loc i) = true :=
      List.all_eq_true.mpr fun i hi => beq_iff_eq.mpr (ht.2 i (List.mem_range.mp hi))
    simp only [ht.length, hsweep, beq_self_eq_true, Bool.true_and, Bool.and_true]
    cases hsl : slotsOf L p.factors p.loc with
    | none => rfl
    | some sl =>
      cases hks : (p.factors.filterMap id).isPerm (List.range L.length) with
      | false => simp
      | true =>
        have hc := cover_checks (slots_cover hp hsl (slotsOf_keys hsl ▸ List.isPerm_iff.mp hks))
        rw [Bool.and_eq_true] at hc
        simp only [hc.1, hc.2, Bool.and_true, Option.isSome_some, Bool.true_and]

section lawful
variable {R : Type} [Ops R]

def prod : List R → R
  | [] => one
  | x :: xs => mul x (prod xs)

/-- gate value of line `k` at (i, j) -/
def hval (n : Nat) (gs : List (Gate R)) (i j : Nat) (k : Nat) : R :=
  match gs[k]? with
  | some g => g.m (locIdx n g.args i) (locIdx n g.args j)
  | none => one

theorem prod_map_eq_foldr {α : Type} (f : α → R) (l : List α) :
    prod (l.map f) = l.foldr (fun g acc => mul (f g) acc) one := by
  induction l with
  | nil => rfl
  | cons a l ih => simp [prod, ih]

theorem range_map_hval (n : Nat) (gs : List (Gate R)) (i j : Nat) :
    (List.range gs.length).map (hval n gs i j)
      = gs.map (fun g => g.m (locIdx n g.args i) (locIdx n g.args j)) := by
  apply List.ext_getElem
  · simp
  · intro k h1 h2
    simp only [List.getElem_map, List.getElem_range, hval]
    have : k < gs.length := by simpa using h2
    simp [List.getElem?_eq_getElem this]

variable [Lawful R]

theorem prod_perm {l₁ l₂ : List R} (h : l₁.Perm l₂) : prod l₁ = prod l₂ := by
  induction h with
  | nil => rfl
  | cons x _ ih => simp only [prod, ih]
  | swap x y l => simp only [prod]; ac_rfl
  | trans _ _ ih₁ ih₂ => exact ih₁.trans ih₂

/-- value contributed by one tensor factor at basis indices `i`, `j` -/
def fval (n : Nat) (gs : List (Gate R)) (i j : Nat) : Option Nat × List Nat → R
  | (none, s) => if s.all (fun u => qbit n u i == qbit n u j) then one else zero
  | (some k, _) => hval n gs i j k

/-- what is known of the running tensor product: it covers the qubits `S` and holds `c` at the local
    indices of `(i, j)`; before the first factor nothing is covered -/
def AccOk (n i j : Nat) (S : List Nat) (c : R) : Option (DMat R) → Prop
  | none => S = [] ∧ c = one
  | some A => A.dim = 2 ^ S.length ∧ A.e (locIdx n S i) (locIdx n S j) = c

theorem accOk_step {n i j : Nat} {S T : List Nat} {c v : R} {acc : Option (DMat R)} {m : DMat R}
    (hm : m.dim = 2 ^ T.length) (hv : m.e (locIdx n T i) (locIdx n T j) = v) :
    AccOk n i j S c acc →
    AccOk n i j (S ++ T) (mul c v) (some (match acc with | none => m | some a => tensor a m)) := by
  intro h
  cases acc with
  | none =>
    obtain ⟨rfl, rfl⟩ := h
    exact ⟨by simpa using hm, by rw [List.nil_append, hv, Lawful.one_mul]⟩
  | some A =>
    obtain ⟨hd, he⟩ := h
    refine ⟨by simp only [tensor, hd, hm, List.length_append, Nat.pow_add], ?_⟩
    simp only [tensor, hm]
    rw [locIdx_append_div, locIdx_append_div, locIdx_append_mod, locIdx_append_mod, he, hv]

/-- the tensor-product fold keeps: entry at the local indices of (i, j) = product of the factor
    values; it fails only when there is no factor at all -/
theorem tensorAll_inv (n : Nat) (gs : List (Gate R)) (i j : Nat) :
    ∀ (fs : List (Option Nat)) (loc : List Nat) (sl : List (Option Nat × List Nat))
      (acc : Option (DMat R)) (S : List Nat) (c : R),
      slotsOf (gs.map (·.args)) fs loc = some sl → AccOk n i j S c acc →
      match tensorAll gs fs acc with
      | some M => AccOk n i j (S ++ loc) (sl.foldl (fun acc s => mul acc (fval n gs i j s)) c) (some M)
      | none => acc = none ∧ fs = [] := by
  intro fs
  induction fs with
  | nil =>
    intro loc sl acc S c hs h
    obtain ⟨rfl, rfl⟩ := slotsOf_nil hs
    cases acc with
    | none => exact ⟨rfl, rfl⟩
    | some A => simpa [tensorAll] using h
  | cons f fs ih =>
    intro loc sl acc S c hs h
    obtain ⟨T, rest, sl', rfl, rfl, hs', hT⟩ := slotsOf_cons hs
    -- the factor `m` stands on the qubits `T`
    suffices ∃ m, factorMat gs f = some m ∧ m.dim = 2 ^ T.length ∧
        m.e (locIdx n T i) (locIdx n T j) = fval n gs i j (f, T) by
      obtain ⟨m, hf, hm, hv⟩ := this
      have := ih rest sl' _ (S ++ T) _ hs' (accOk_step hm hv h)
      simp only [tensorAll, hf, List.foldl_cons, ← List.append_assoc]
      revert this
      cases tensorAll gs fs _ with
      | none => exact fun h => nomatch h.1
      | some M => exact id
    cases f with
    | none =>
      obtain ⟨u, rfl⟩ := hT
      refine ⟨ident2, rfl, rfl, ?_⟩
      simp only [ident2, locIdx_single, fval, List.all_cons, List.all_nil, Bool.and_true]
      cases qbit n u i <;> cases qbit n u j <;> simp
    | some k =>
      simp only [List.getElem?_map] at hT
      cases hg : gs[k]? with
      | none => rw [hg] at hT; cases hT
      | some g =>
        rw [hg] at hT
        cases hT
        exact ⟨⟨2 ^ g.args.length, g.m⟩, by simp only [factorMat, hg], rfl, by simp only [fval, hval, hg]⟩

theorem foldl_fval_split (n : Nat) (gs : List (Gate R)) (i j : Nat)
    (sl : List (Option Nat × List Nat)) (c : R) :
    sl.foldl (fun acc s => mul acc (fval n gs i j s)) c
      = mul c (mul (if (idQubits sl).all (fun u => qbit n u i == qbit n u j) then one else zero)
                   (prod ((sl.filterMap (·.1)).map (hval n gs i j)))) := by
  induction sl generalizing c with
  | nil => simp [idQubits, prod, mul_one']
  | cons s sl ih =>
    rw [List.foldl_cons, ih]
    obtain ⟨t, q⟩ := s
    cases t with
    | none =>
      have hid : idQubits ((none, q) :: sl) = q ++ idQubits sl := by simp [idQubits]
      rw [hid, List.all_append]
      simp only [fval, List.filterMap_cons]
      by_cases h : q.all (fun u => qbit n u i == qbit n u j) = true
      · rw [if_pos h, mul_one']
        simp only [h, Bool.true_and]
      · have hq : q.all (fun u => qbit n u i == qbit n u j) = false := Bool.eq_false_iff.mpr h
        simp only [hq, Bool.false_and, Bool.false_eq_true, ↓reduceIte, mul_zero', Lawful.zero_mul]
    | some k =>
      have hid : idQubits ((some k, q) :: sl) = idQubits sl := by simp [idQubits]
      rw [hid]
      simp only [fval, List.filterMap_cons, List.map_cons, prod, hval]
      ac_rfl

theorem agree_equiv (n : Nat) (touched idq : List Nat) (i j : Nat)
    (h : (touched ++ idq).Perm (List.range n)) :
    idq.all (fun u => qbit n u i == qbit n u j) = agreeOut n touched i j := by
  have hmem : ∀ a, a < n ↔ a ∈ touched ∨ a ∈ idq := fun a => by
    rw [← List.mem_range, ← h.mem_iff, List.mem_append]
  have hnd := List.nodup_append.mp (h.nodup_iff.mpr List.nodup_range)
  rw [Bool.eq_iff_iff, agreeOut_iff, List.all_eq_true]
  simp only [beq_iff_eq]
  constructor
  · intro hh a ha
    exact ((hmem a).mp ha).imp_right (hh a)
  · intro hh u hu
    exact (hh u ((hmem u).mpr (Or.inr hu))).resolve_left fun ht => hnd.2.2 u ht u hu rfl

/-- **the lifting lemma**: a layer shape that passes the certificate is compiled correctly for every
    choice of gate matrices over every lawful commutative semiring -/
theorem layer_of_check (n : Nat) (gs : List (Gate R))
    (hc : checkLayer n (gs.map (·.args)) = true) :
    ∃ M, layer false n gs = some M ∧ M.dim = 2 ^ n ∧
      ∀ i j, i < 2 ^ n → j < 2 ^ n → M.e i j = layerRef n gs i j := by
  rw [checkLayer_eq_checkShape] at hc
  unfold checkShape at hc
  cases hp : plan false n (gs.map (·.args)) with
  | none => rw [hp] at hc; cases hc
  | some p =>
    rw [hp] at hc
    simp only at hc
    cases hsl : slotsOf (gs.map (·.args)) p.factors p.loc with
    | none => rw [hsl] at hc; cases hc
    | some sl =>
      rw [hsl] at hc
      simp only [Option.isSome_some, Bool.true_and, Bool.and_eq_true, Bool.not_eq_true'] at hc
      obtain ⟨hne, hks⟩ := hc
      have hks' : (sl.filterMap (·.1)).Perm (List.range gs.length) := by
        simpa [slotsOf_keys hsl] using List.isPerm_iff.mp hks
      have hlen := (plan_tracks hp).length
      have hperm := (plan_tracks hp).2
      have main := fun i j => tensorAll_inv n gs i j p.factors p.loc sl none [] one hsl ⟨rfl, rfl⟩
      cases hM : tensorAll gs p.factors none with
      | none =>
        have := main 0 0
        rw [hM] at this
        rw [this.2] at hne
        cases hne
      | some M =>
        simp only [hM, List.nil_append, AccOk] at main
        refine ⟨⟨M.dim, undoSwaps n M.e p.swaps⟩, ?_, ?_, ?_⟩
        · simp only [layer, hp, build, hM]
        · rw [(main 0 0).1, hlen]
        · intro i j hi hj
          simp only [undoSwaps_eq]
          rw [hperm i hi, hperm j hj, (main i j).2, foldl_fval_split, Lawful.one_mul]
          -- identity part
          have hid := agree_equiv n (gs.map (·.args)).flatten (idQubits sl) i j
            (slots_cover hp hsl (by simpa using hks'))
          -- gate part
          have hg : prod ((sl.filterMap (·.1)).map (hval n gs i j))
              = gs.foldr (fun g acc => mul (g.m (locIdx n g.args i) (locIdx n g.args j)) acc) one := by
            rw [prod_perm (hks'.map _), range_map_hval, prod_map_eq_foldr]
          rw [hid, hg]
          unfold layerRef
          have hfl : (gs.map (·.args)).flatten = gs.flatMap (·.args) := by
            simp [List.flatMap]
          rw [hfl]
          split
          · exact Lawful.one_mul _
          · exact Lawful.zero_mul _

end lawful

/-! ## Part B: every layer shape -/

/-- all gates (argument lists of arity 1 and 2) on the free qubits -/
def gatesOn (free : List Nat) : List (List Nat) :=
  free.map (fun a => [a]) ++ free.flatMap fun a => (free.filter (· != a)).map fun b => [a, b]

/-- all ordered lists of at most `f` pairwise disjoint gates on the free qubits -/
def genLayers : Nat → List Nat → List (List (List Nat))
  | 0, _ => [[]]
  | f + 1, free => [] :: (gatesOn free).flatMap fun g =>
      (genLayers f (free.filter fun a => !g.contains a)).map (g :: ·)

def allLayers (n : Nat) : List (List (List Nat)) := genLayers n (List.range n)

def checkAll (n : Nat) : Bool := (allLayers n).all (checkLayer n)

theorem checkAll_eq (n : Nat) : checkAll n = (allLayers n).all (checkShape n) :=
  congrArg (allLayers n).all (funext (checkLayer_eq_checkShape n))

/-- a layer on `n` qubits: gates of arity 1 or 2, arguments declared, no qubit used twice -/
structure ValidLayer (n : Nat) (L : List (List Nat)) : Prop where
  arity : ∀ a ∈ L, a.length = 1 ∨ a.length = 2
  bound : ∀ x ∈ L.flatten, x < n
  nodup : L.flatten.Nodup

theorem mem_gatesOn (free g : List Nat) (har : g.length = 1 ∨ g.length = 2)
    (hmem : ∀ x ∈ g, x ∈ free) (hnd : g.Nodup) : g ∈ gatesOn free := by
  unfold gatesOn
  rcases har with h1 | h2
  · match g, h1 with
    | [a], _ =>
      apply List.mem_append_left
      exact List.mem_map.mpr ⟨a, hmem a (by simp), rfl⟩
  · match g, h2 with
    | [a, b], _ =>
      apply List.mem_append_right
      rw [List.mem_flatMap]
      refine ⟨a, hmem a (by simp), ?_⟩
      rw [List.mem_map]
      refine ⟨b, ?_, rfl⟩
      rw [List.mem_filter]
      refine ⟨hmem b (by simp), ?_⟩
      have : a ≠ b := by
        intro h; subst h; simp at hnd
      simpa using fun h => this h.symm

theorem mem_genLayers : ∀ (f : Nat) (free : List Nat) (L : List (List Nat)),
    L.length ≤ f → (∀ a ∈ L, a.length = 1 ∨ a.length = 2) → (∀ x ∈ L.flatten, x ∈ free) →
    L.flatten.Nodup → L ∈ genLayers f free := by
  intro f
  induction f with
  | zero =>
    intro free L hl _ _ _
    have : L = [] := List.eq_nil_of_length_eq_zero (by omega)
    subst this; simp [genLayers]
  | succ f ih =>
    intro free L hl har hmem hnd
    cases L with
    | nil => simp [genLayers]
    | cons g rest =>
      simp only [genLayers]
      apply List.mem_cons_of_mem
      rw [List.mem_flatMap]
      simp only [List.flatten_cons, List.nodup_append] at hnd
      obtain ⟨hg, hrest, hdisj⟩ := hnd
      refine ⟨g, mem_gatesOn free g (har g (by simp)) (fun x hx => hmem x (by simp [hx])) hg, ?_⟩
      rw [List.mem_map]
      refine ⟨rest, ?_, rfl⟩
      apply ih
      · simp at hl; omega
      · intro a ha; exact har a (by simp [ha])
      · intro x hx
        rw [List.mem_filter]
        refine ⟨hmem x (by simp only [List.flatten_cons, List.mem_append]; exact Or.inr hx), ?_⟩
        have : x ∉ g := fun hxg => hdisj x hxg x hx rfl
        simpa using this
      · exact hrest

theorem validLayer_mem_allLayers (n : Nat) (L : List (List Nat)) (h : ValidLayer n L) :
    L ∈ allLayers n := by
  apply mem_genLayers
  · -- pigeonhole: every gate uses at least one of the n qubits, none twice
    have h1 : L.length ≤ L.flatten.length := by
      have har := h.arity
      clear h
      induction L with
      | nil => simp
      | cons a L ih =>
        have := har a (by simp)
        have := ih (fun b hb => har b (by simp [hb]))
        simp only [List.length_cons, List.flatten_cons, List.length_append]
        omega
    have h2 : L.flatten.length ≤ (List.range n).length :=
      h.nodup.length_le_of_subset (fun x hx => List.mem_range.mpr (h.bound x hx))
    simpa using Nat.le_trans h1 h2
  · exact h.arity
  · intro x hx; exact List.mem_range.mpr (h.bound x hx)
  · exact h.nodup

/-! ## Part C: `layerRef (g :: gs)` = `embed g` · `layerRef gs` (the finite sum has exactly one non-zero term) -/
section collapse

variable {R : Type} [Ops R] [Lawful R]

theorem layerRef_cons (n : Nat) (g : Gate R) (gs : List (Gate R))
    (hv : ValidLayer n ((g :: gs).map (·.args))) :
    EqOn (2 ^ n) (mmul (2 ^ n) (embed n g) (layerRef n gs)) (layerRef n (g :: gs)) := by
  intro i j hi hj
  have hfl : ((g :: gs).map (·.args)).flatten = g.args ++ gs.flatMap (·.args) := by
    simp [List.flatMap]
  have hA : ∀ x ∈ g.args, x < n := fun x hx => hv.bound x (by rw [hfl]; simp [hx])
  have hB : ∀ x ∈ gs.flatMap (·.args), x < n := fun x hx => hv.bound x (by rw [hfl]; simp [hx])
  have hnd := hv.nodup
  rw [hfl, List.nodup_append] at hnd
  have hdisj : ∀ x ∈ g.args, x ∉ gs.flatMap (·.args) := fun x hx hx' => hnd.2.2 x hx x hx' rfl
  -- the only index between `i` and `j`: the bits of `j` on the gate's qubits, those of `i` elsewhere
  obtain ⟨m, hm⟩ : ∃ m, m = setb n g.args (locIdx n g.args j) i := ⟨_, rfl⟩
  have hmlt : m < 2 ^ n := hm ▸ setb_lt n g.args _ i hi hA
  have hin : ∀ a ∈ g.args, qbit n a m = qbit n a j :=
    locIdx_inj n g.args m j
      (by rw [hm, locIdx_setb n g.args _ i hA hnd.1, Nat.mod_eq_of_lt (locIdx_lt n j g.args)])
  have hout : ∀ a, a < n → a ∉ g.args → qbit n a m = qbit n a i :=
    fun a ha hna => hm ▸ qbit_setb_out n g.args _ i a ha hA hna
  simp only [mmul]
  rw [sumN_single (2 ^ n) m hmlt]
  · -- the surviving term
    have ag1 : agreeOut n g.args i m = true := hm ▸ agree_setb n g.args _ i hA
    have l1 : locIdx n g.args m = locIdx n g.args j := locIdx_congr n g.args m j hin
    have ag2 : agreeOut n (gs.flatMap (·.args)) m j
        = agreeOut n (g.args ++ gs.flatMap (·.args)) i j :=
      agreeOut_eq n fun a ha => by
        by_cases hm : a ∈ g.args
        · simp [hm, hin a hm]
        · simp [hm, hout a ha hm]
    have l2 : gs.foldr (fun g' acc => mul (g'.m (locIdx n g'.args m) (locIdx n g'.args j)) acc) one
        = gs.foldr (fun g' acc => mul (g'.m (locIdx n g'.args i) (locIdx n g'.args j)) acc) one := by
      rw [← prod_map_eq_foldr, ← prod_map_eq_foldr]
      congr 1
      apply List.map_congr_left
      intro g' hg'
      have : locIdx n g'.args m = locIdx n g'.args i := by
        apply locIdx_congr
        intro a ha
        have hmem : a ∈ gs.flatMap (·.args) := List.mem_flatMap.mpr ⟨g', hg', ha⟩
        exact hout a (hB a hmem) (fun h => hdisj a h hmem)
      rw [this]
    simp only [embed, layerRef, ag1, if_true, l1, ag2, l2, List.flatMap_cons, List.foldr_cons]
    split
    · rfl
    · exact mul_zero' _
  · -- every other term vanishes
    intro k hk hne
    simp only [embed, layerRef]
    by_cases h1 : agreeOut n g.args i k = true
    · by_cases h2 : agreeOut n (gs.flatMap (·.args)) k j = true
      · refine absurd (eq_of_qbit_eq hk hmlt fun a ha => ?_) hne
        by_cases hm : a ∈ g.args
        · exact (((agreeOut_iff n _ k j).mp h2 a ha).resolve_left (hdisj a hm)).trans (hin a hm).symm
        · exact (((agreeOut_iff n _ i k).mp h1 a ha).resolve_left hm).symm.trans (hout a ha hm).symm
      · rw [if_neg h2]; exact mul_zero' _
    · rw [if_neg h1]; exact Lawful.zero_mul _

end collapse

section circuit
variable {R : Type} [Ops R] [Lawful R]

theorem validLayer_perm {n : Nat} {L L' : List (List Nat)} (h : L.Perm L') (hv : ValidLayer n L) :
    ValidLayer n L' :=
  ⟨fun a ha => hv.arity a (h.mem_iff.mpr ha),
   fun x hx => hv.bound x (h.flatten.mem_iff.mpr hx),
   h.flatten.nodup hv.nodup⟩

theorem validLayer_append {n : Nat} {L₁ L₂ : List (List Nat)} :
    ValidLayer n (L₁ ++ L₂) ↔
      ValidLayer n L₁ ∧ ValidLayer n L₂ ∧ ∀ x ∈ L₁.flatten, x ∉ L₂.flatten := by
  constructor
  · intro ⟨ha, hb, hn⟩
    rw [List.flatten_append] at hb hn
    rw [List.nodup_append] at hn
    exact ⟨⟨fun a h => ha a (List.mem_append_left _ h), fun x h => hb x (List.mem_append_left _ h), hn.1⟩,
      ⟨fun a h => ha a (List.mem_append_right _ h), fun x h => hb x (List.mem_append_right _ h), hn.2.1⟩,
      fun x h h' => hn.2.2 x h x h' rfl⟩
  · intro ⟨h1, h2, hd⟩
    refine ⟨fun a h => (List.mem_append.mp h).elim (h1.arity a) (h2.arity a), ?_, ?_⟩
    · rw [List.flatten_append]
      exact fun x h => (List.mem_append.mp h).elim (h1.bound x) (h2.bound x)
    · rw [List.flatten_append, List.nodup_append]
      exact ⟨h1.nodup, h2.nodup, fun a ha b hb e => hd a ha (e ▸ hb)⟩

omit [Ops R] [Lawful R] in
theorem validLayer_single {n : Nat} {g : Gate R} (hg : OkGate n g) : ValidLayer n [g.args] :=
  ⟨fun a ha => List.mem_singleton.mp ha ▸ hg.1, fun x hx => hg.2.1 x (by simpa using hx),
    by simpa using hg.2.2⟩

theorem layerRef_perm (n : Nat) {gs gs' : List (Gate R)} (h : gs.Perm gs') :
    layerRef n gs = layerRef n gs' := by
  funext i j
  unfold layerRef
  have hag : agreeOut n (gs.flatMap (·.args)) i j = agreeOut n (gs'.flatMap (·.args)) i j :=
    agreeOut_eq n fun a _ => by rw [(h.flatMap_right (·.args)).mem_iff]
  rw [hag, ← prod_map_eq_foldr, ← prod_map_eq_foldr, prod_perm (h.map _)]

omit [Lawful R] in
theorem layerRef_nil (n : Nat) : EqOn (2 ^ n) (layerRef n ([] : List (Gate R))) idMat := by
  intro i j hi hj
  simp only [layerRef, idMat, List.flatMap_nil, List.foldr_nil]
  have : agreeOut n [] i j = true ↔ i = j := by
    rw [agreeOut_iff]
    constructor
    · intro h
      exact eq_of_qbit_eq hi hj fun a ha => (h a ha).resolve_left List.not_mem_nil
    · intro h a _; exact Or.inr (by rw [h])
  by_cases hij : i = j
  · rw [if_pos (this.mpr hij), if_pos hij]
  · rw [if_neg (fun h => hij (this.mp h)), if_neg hij]

theorem embedChain_foldr (n : Nat) (U : Mat R) : ∀ (r : List (Gate R)),
    ValidLayer n (r.map (·.args)) →
    EqOn (2 ^ n) (r.foldr (fun g acc => mmul (2 ^ n) (embed n g) acc) U) (mmul (2 ^ n) (layerRef n r) U) := by
  intro r
  induction r with
  | nil =>
    intro _
    exact ((mmul_congr _ (layerRef_nil n) (EqOn.refl _ U)).trans (mmul_id_left _ U)).symm
  | cons g r ih =>
    intro hv
    have hv' : ValidLayer n (r.map (·.args)) := (validLayer_append (L₁ := [g.args])).mp hv |>.2.1
    simp only [List.foldr_cons]
    refine (mmul_congr _ (EqOn.refl _ _) (ih hv')).trans ?_
    rw [← mmul_assoc]
    exact mmul_congr _ (layerRef_cons n g r hv) (EqOn.refl _ U)

theorem embedChain (n : Nat) (U : Mat R) (gs : List (Gate R)) (hv : ValidLayer n (gs.map (·.args))) :
    EqOn (2 ^ n) (gs.foldl (fun U g => mmul (2 ^ n) (embed n g) U) U) (mmul (2 ^ n) (layerRef n gs) U) := by
  have h1 : gs.foldl (fun U g => mmul (2 ^ n) (embed n g) U) U
      = gs.reverse.foldr (fun g acc => mmul (2 ^ n) (embed n g) acc) U := by
    rw [List.foldr_reverse]
  rw [h1, ← layerRef_perm n (List.reverse_perm gs)]
  apply embedChain_foldr
  exact validLayer_perm (((List.reverse_perm gs).map (·.args)).symm) hv

/-- the layer that `splitLayers` closes: the gates collected so far, if any -/
theorem closed_spec {α : Type} (cur : List α) :
    (∀ l ∈ (if cur.isEmpty then [] else [cur.reverse]), l = cur.reverse) ∧
      (if cur.isEmpty then [] else [cur.reverse]).flatten = cur.reverse := by
  cases cur <;> simp

omit [Ops R] [Lawful R] in
theorem splitLayers_spec (n : Nat) : ∀ (gs cur : List (Gate R)) (used : List Nat),
    (∀ g ∈ gs, OkGate n g) → ValidLayer n (cur.reverse.map (·.args)) →
    (∀ x, x ∈ used ↔ x ∈ (cur.map (·.args)).flatten) →
    (∀ l ∈ splitLayers (·.args) gs cur used, ValidLayer n (l.map (·.args))) ∧
      (splitLayers (·.args) gs cur used).flatten = cur.reverse ++ gs := by
  intro gs
  induction gs with
  | nil =>
    intro cur used _ hv _
    obtain ⟨hm, hf⟩ := closed_spec cur
    exact ⟨fun l hl => hm l hl ▸ hv, by rw [splitLayers, hf, List.append_nil]⟩
  | cons g gs ih =>
    intro cur used hok hv hu
    have hg := hok g (by simp)
    have hok' : ∀ g' ∈ gs, OkGate n g' := fun g' h => hok g' (by simp [h])
    simp only [splitLayers]
    split
    · -- a qubit is reused: close the current layer
      have := ih [g] g.args hok' (validLayer_single hg) (by intro x; simp)
      obtain ⟨h1, h2⟩ := this
      obtain ⟨hm, hf⟩ := closed_spec cur
      exact ⟨fun l hl => (List.mem_append.mp hl).elim (fun h => hm l h ▸ hv) (h1 l),
        by rw [List.flatten_append, hf, h2]; rfl⟩
    · rename_i hno
      have hno' : ∀ x ∈ g.args, x ∉ used := by
        intro x hx hxu
        apply hno
        rw [List.any_eq_true]
        exact ⟨x, hx, by simpa using hxu⟩
      have hv2 : ValidLayer n ((g :: cur).reverse.map (·.args)) := by
        rw [List.reverse_cons, List.map_append]
        refine validLayer_append.mpr ⟨hv, validLayer_single hg, fun x hx hx' => ?_⟩
        rw [List.map_singleton, List.flatten_singleton] at hx'
        exact hno' x hx' ((hu x).mpr ((((List.reverse_perm cur).map (·.args)).flatten).mem_iff.mp hx))
      have := ih (g :: cur) (g.args ++ used) hok' hv2 (by
        intro x
        simp only [List.mem_append, List.map_cons, List.flatten_cons]
        rw [hu x])
      obtain ⟨h1, h2⟩ := this
      exact ⟨h1, by rw [h2]; simp⟩

theorem compileMats_prod (n : Nat)
    (hlayer : ∀ gs : List (Gate R), ValidLayer n (gs.map (·.args)) →
      ∃ M, layer false n gs = some M ∧ M.dim = 2 ^ n ∧ EqOn (2 ^ n) M.e (layerRef n gs)) :
    ∀ (ls : List (List (Gate R))), (∀ l ∈ ls, ValidLayer n (l.map (·.args))) →
      ∃ Ms, compileMats false n ls = some Ms ∧ (∀ M ∈ Ms, M.dim = 2 ^ n) ∧
        ∀ U U' : Mat R, EqOn (2 ^ n) U U' →
          EqOn (2 ^ n) ((Ms.map (·.e)).foldl (fun P m => mmul (2 ^ n) m P) U)
            (ls.flatten.foldl (fun U g => mmul (2 ^ n) (embed n g) U) U') := by
  intro ls
  induction ls with
  | nil => intro _; exact ⟨[], rfl, by simp, fun U U' h => by simpa using h⟩
  | cons l ls ih =>
    intro hv
    obtain ⟨M, hM, hdim, hent⟩ := hlayer l (hv l (by simp))
    obtain ⟨Ms, hMs, hdims, hprod⟩ := ih (fun l' h => hv l' (by simp [h]))
    refine ⟨M :: Ms, by simp [compileMats, hM, hMs], ?_, ?_⟩
    · intro M' hM'
      simp only [List.mem_cons] at hM'
      rcases hM' with h | h
      · subst h; exact hdim
      · exact hdims M' h
    · intro U U' hU
      simp only [List.map_cons, List.foldl_cons, List.flatten_cons, List.foldl_append]
      apply hprod
      exact (mmul_congr _ hent hU).trans (embedChain n U' l (hv l (by simp))).symm

omit [Lawful R] in
theorem compileMats_mem (n : Nat) : ∀ (ls : List (List (Gate R))) (Ms : List (DMat R)),
    compileMats false n ls = some Ms → ∀ M ∈ Ms, ∃ l ∈ ls, layer false n l = some M := by
  intro ls
  induction ls with
  | nil => intro Ms h M hM; simp [compileMats] at h; subst h; cases hM
  | cons l ls ih =>
    intro Ms h M hM
    simp only [compileMats] at h
    cases hl : layer false n l with
    | none => rw [hl] at h; cases h
    | some m =>
      cases hr : compileMats false n ls with
      | none => rw [hl, hr] at h; cases h
      | some ms =>
        rw [hl, hr] at h
        cases h
        simp only [List.mem_cons] at hM
        rcases hM with e | e
        · subst e; exact ⟨l, by simp, hl⟩
        · obtain ⟨l', hl', hM'⟩ := ih ms hr M e
          exact ⟨l', by simp [hl'], hM'⟩

end circuit

end BMV.Quantum
