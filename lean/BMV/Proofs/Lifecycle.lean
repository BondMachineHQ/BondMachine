/-
  Lemmas for BMV.Lifecycle (property C17).  The model addresses workers by index; `index_split`
  turns the three index primitives into a splitting `l ++ w :: r` of the worker list, and `Move`
  is the scheduler step as a relation over such splittings.  Counting, ownership and termination
  facts are read off `Move` case by case and lifted to schedules.
-/
import BMV.Lifecycle
namespace BMV.Lifecycle
open List hiding count

/-! ### the list primitives -/

theorem index_split (ws : List Worker) (i : Nat) :
    (getAt ws i = none ∧ eraseAt ws i = ws ∧ ∀ b, setBusy ws i b = ws) ∨
    ∃ l w r, getAt ws i = some w ∧ ws = l ++ w :: r ∧ eraseAt ws i = l ++ r ∧
      ∀ b, setBusy ws i b = l ++ { w with busy := b } :: r := by
  induction ws generalizing i with
  | nil => exact .inl ⟨rfl, rfl, fun _ => rfl⟩
  | cons x xs ih =>
    cases i with
    | zero => exact .inr ⟨[], x, xs, rfl, rfl, rfl, fun _ => rfl⟩
    | succ i =>
      rcases ih i with ⟨h1, h2, h3⟩ | ⟨l, w, r, h1, h2, h3, h4⟩
      · exact .inl ⟨h1, congrArg (x :: ·) h2, fun b => congrArg (x :: ·) (h3 b)⟩
      · exact .inr ⟨x :: l, w, r, h1, congrArg (x :: ·) h2, congrArg (x :: ·) h3,
          fun b => congrArg (x :: ·) (h4 b)⟩

theorem length_setBusy (ws : List Worker) (i : Nat) (b : Bool) :
    (setBusy ws i b).length = ws.length := by
  rcases index_split ws i with ⟨_, _, h⟩ | ⟨l, w, r, _, hs, _, h⟩
  · rw [h]
  · rw [h, hs, length_append, length_append, length_cons, length_cons]

theorem getAt_mem {ws : List Worker} {i : Nat} {w : Worker} (h : getAt ws i = some w) : w ∈ ws := by
  rcases index_split ws i with ⟨h', _⟩ | ⟨l, w', r, h', hs, _⟩
  · rw [h'] at h; cases h
  · rw [h'] at h; cases h; rw [hs]; exact mem_append_right _ mem_cons_self

theorem mem_getAt {ws : List Worker} {w : Worker} (h : w ∈ ws) : ∃ i, getAt ws i = some w := by
  induction ws with
  | nil => cases h
  | cons x xs ih =>
    rcases mem_cons.mp h with rfl | h
    · exact ⟨0, rfl⟩
    · exact (ih h).elim fun i hi => ⟨i + 1, hi⟩

theorem getAt_map_idle (ws : List Worker) (i : Nat) :
    getAt (ws.map idle) i = (getAt ws i).map idle := by
  induction ws generalizing i with
  | nil => rfl
  | cons w ws ih => cases i with
    | zero => rfl
    | succ i => exact ih i

/-! ### counting -/

theorem count_eq_countP (k : Kind) (ws : List Worker) :
    count k ws = ws.countP (fun w => decide (w.kind = k)) := by
  induction ws with
  | nil => rfl
  | cons w ws ih => simp only [count, countP_cons, ih, decide_eq_true_eq, Nat.add_comm]

theorem count_append (k : Kind) (a b : List Worker) : count k (a ++ b) = count k a + count k b := by
  simp only [count_eq_countP, countP_append]

theorem count_replicate (k k' : Kind) (c n : Nat) :
    count k (replicate n ⟨k', c, false⟩) = if k' = k then n else 0 := by
  simp only [count_eq_countP, countP_replicate, decide_eq_true_eq]

theorem count_le_length (k : Kind) (ws : List Worker) : count k ws ≤ ws.length := by
  rw [count_eq_countP]; exact countP_le_length

theorem count_filter_idle (k : Kind) (keep : Worker → Bool) (ws : List Worker) :
    count k ((ws.filter keep).map idle) ≤ count k ws ∧
    ((∀ w, w.kind = k → keep w = true) → count k ((ws.filter keep).map idle) = count k ws) := by
  simp only [count_eq_countP, countP_map, countP_filter]
  refine ⟨countP_mono_left fun w _ h => ?_, fun hk => countP_congr fun w _ => ?_⟩
  · simp only [Function.comp, Bool.and_eq_true] at h; exact h.1
  · simp only [Function.comp, Bool.and_eq_true]
    exact ⟨fun h => h.1, fun h => ⟨h, hk w (of_decide_eq_true h)⟩⟩

theorem length_eq_counts (ws : List Worker) :
    ws.length = count .proc ws + count .disp ws + count .emu ws + count .req ws + count .pool ws := by
  induction ws with
  | nil => rfl
  | cons w ws ih =>
    have one : (if w.kind = .proc then 1 else 0) + (if w.kind = .disp then 1 else 0)
        + (if w.kind = .emu then 1 else 0) + (if w.kind = .req then 1 else 0)
        + (if w.kind = .pool then 1 else 0) = 1 := by cases w.kind <;> rfl
    simp only [length_cons, count, ih]; omega

theorem measure_append (a b : List Worker) : measure (a ++ b) = measure a + measure b := by
  induction a with
  | nil => simp [measure]
  | cons w ws ih => simp only [cons_append, measure, ih]; omega

theorem measure_le (ws : List Worker) : measure ws ≤ 2 * ws.length := by
  induction ws with
  | nil => simp [measure]
  | cons w ws ih => simp only [measure, length_cons]; split <;> omega

/-! ### spawns of a schedule -/

theorem spawnedOf_append (k : Kind) (a b : List Act) :
    spawnedOf k (a ++ b) = spawnedOf k a + spawnedOf k b := by
  induction a with
  | nil => simp [spawnedOf]
  | cons x xs ih =>
    cases x <;> simp only [cons_append, spawnedOf, ih]
    omega

theorem spawnedOf_replicate_flatten (k : Kind) (as : List Act) (n : Nat) :
    spawnedOf k (replicate n as).flatten = n * spawnedOf k as := by
  induction n with
  | zero => simp [spawnedOf]
  | succ n ih => rw [replicate_succ, flatten_cons, spawnedOf_append, ih, Nat.succ_mul, Nat.add_comm]

theorem spawnedOf_map (k : Kind) (f : Nat → Act) (hf : ∀ i, spawnedOf k [f i] = 0) (idx : List Nat) :
    spawnedOf k (idx.map f) = 0 := by
  induction idx with
  | nil => rfl
  | cons i is ih => rw [map_cons, ← singleton_append, spawnedOf_append, hf, ih]

theorem spawnedOf_tick (k : Kind) (idx : List Nat) : spawnedOf k (tick idx) = 0 := by
  rw [tick, spawnedOf_append, spawnedOf_map k _ (fun _ => rfl), spawnedOf_map k _ (fun _ => rfl)]

theorem spawnedOf_launch (k : Kind) (c P E : Nat) :
    spawnedOf k (launch c P E)
      = (if Kind.disp = k then 1 else 0)
        + P * ((if Kind.emu = k then E else 0) + (if Kind.proc = k then 1 else 0)) := by
  simp only [launch, spawnedOf, spawnedOf_replicate_flatten, Nat.add_zero]

theorem spawnedOf_simCall (k : Kind) (c P E t : Nat) (idx : List Nat) (shut : Bool) :
    spawnedOf k (simCall c P E t idx shut) = spawnedOf k (launch c P E) := by
  simp only [simCall, spawnedOf_append, spawnedOf_replicate_flatten, spawnedOf_tick]
  cases shut <;> simp [spawnedOf]

/-! ### the scheduler step as a relation -/

/-- `step` case by case, with the addressed worker exposed by a splitting of the live list and
    the part of the enabling condition that the proofs use -/
inductive Move (cfg : Cfg) : Sys → Act → Sys → Prop
  | skip (s : Sys) (a : Act) : enabled cfg s a = false → Move cfg s a s
  | spawn (s : Sys) (c : Nat) (k : Kind) (n : Nat) :
      Move cfg s (.spawn c k n) { s with workers := s.workers ++ replicate n ⟨k, c, false⟩ }
  | shutdown (s : Sys) (c : Nat) : Move cfg s (.shutdown c) { s with closed := c :: s.closed }
  | token (l r : List Worker) (w : Worker) (cl : List Nat) (i : Nat) :
      Move cfg ⟨l ++ w :: r, cl⟩ (.token i) ⟨l ++ { w with busy := true } :: r, cl⟩
  | answer (l r : List Worker) (w : Worker) (cl : List Nat) (i : Nat) : w.busy = true →
      Move cfg ⟨l ++ w :: r, cl⟩ (.answer i) ⟨l ++ { w with busy := false } :: r, cl⟩
  | exit (l r : List Worker) (w : Worker) (cl : List Nat) (i : Nat) : cfg.hasExit w.kind = true →
      Move cfg ⟨l ++ w :: r, cl⟩ (.exit i) ⟨l ++ r, cl⟩

theorem step_move (cfg : Cfg) (s : Sys) (a : Act) : Move cfg s a (step cfg s a) := by
  unfold step
  split
  case isFalse hen => exact .skip s a (Bool.eq_false_iff.mpr hen)
  case isTrue hen =>
    obtain ⟨ws, cl⟩ := s
    cases a with
    | spawn c k n => exact .spawn _ c k n
    | shutdown c => exact .shutdown _ c
    | token i =>
      rcases index_split ws i with ⟨h, _⟩ | ⟨l, w, r, _, rfl, _, h⟩
      · simp [enabled, h] at hen
      · simp only [h]; exact .token l r w cl i
    | answer i =>
      rcases index_split ws i with ⟨h, _⟩ | ⟨l, w, r, hg, rfl, _, h⟩
      · simp [enabled, h] at hen
      · simp only [h]; exact .answer l r w cl i (by simpa [enabled, hg] using hen)
    | exit i =>
      rcases index_split ws i with ⟨h, _⟩ | ⟨l, w, r, hg, rfl, h, _⟩
      · simp [enabled, h] at hen
      · simp only [h]; exact .exit l r w cl i (by simp [enabled, hg] at hen; exact hen.1.2)

theorem Move.measure {cfg : Cfg} {s s' : Sys} {a : Act} (h : Move cfg s a s')
    (hi : a.internal = true) (hen : enabled cfg s a = true) :
    measure s'.workers < measure s.workers := by
  cases h with
  | skip _ _ hne => rw [hne] at hen; cases hen
  | spawn | shutdown | token => cases hi
  | answer l r w cl i hb =>
    simp only [measure_append, Lifecycle.measure, hb, if_true, Bool.false_eq_true, if_false]; omega
  | exit l r w cl i => simp only [measure_append, Lifecycle.measure]; split <;> omega

theorem Move.liveOf_eq {cfg : Cfg} {s s' : Sys} {a : Act} (h : Move cfg s a s') (k : Kind) :
    liveOf k s' ≤ liveOf k s + spawnedOf k [a] ∧
    (cfg.hasExit k = false → liveOf k s' = liveOf k s + spawnedOf k [a]) := by
  cases h with
  | skip _ _ hne =>
    cases a with
    | spawn => cases hne
    | _ => simp [spawnedOf]
  | spawn c k' n => simp [liveOf, spawnedOf, count_append, count_replicate]
  | shutdown c => simp [liveOf, spawnedOf]
  | token l r w cl i => simp [liveOf, spawnedOf, count_append, Lifecycle.count]
  | answer l r w cl i => simp [liveOf, spawnedOf, count_append, Lifecycle.count]
  | exit l r w cl i he =>
    simp only [liveOf, spawnedOf, count_append, Lifecycle.count, Nat.add_zero]
    refine ⟨by omega, fun hk => ?_⟩
    rw [if_neg fun e => by rw [e, hk] at he; cases he]
    omega

def Act.spawnsFor (c : Nat) : Act → Bool
  | .spawn c' _ _ => c' == c
  | _ => true

theorem Move.calls {cfg : Cfg} {s s' : Sys} {a : Act} (h : Move cfg s a s') (c : Nat)
    (hs : ∀ w ∈ s.workers, w.call = c) (ha : a.spawnsFor c = true) :
    ∀ w ∈ s'.workers, w.call = c := by
  cases h with
  | skip => exact hs
  | shutdown => exact hs
  | spawn _ c' k n =>
    intro w hw
    rcases mem_append.mp hw with hw | hw
    · exact hs w hw
    · rw [(mem_replicate.mp hw).2]; exact beq_iff_eq.mp ha
  | token l r w cl i | answer l r w cl i =>
    simpa only [mem_append, mem_cons, or_imp, forall_and, forall_eq] using hs
  | exit l r w cl i =>
    intro v hv
    exact hs v (mem_append.mpr ((mem_append.mp hv).imp_right (mem_cons_of_mem _)))

theorem Move.closed {cfg : Cfg} {s s' : Sys} {a : Act} (h : Move cfg s a s') (c : Nat)
    (hc : c ∈ s.closed) : c ∈ s'.closed := by
  cases h with
  | shutdown => exact mem_cons_of_mem _ hc
  | _ => exact hc

/-! ### schedules -/

theorem run_cons (cfg : Cfg) (s : Sys) (a : Act) (as : List Act) :
    run cfg s (a :: as) = run cfg (step cfg s a) as := rfl

theorem run_append (cfg : Cfg) (s : Sys) (a b : List Act) :
    run cfg s (a ++ b) = run cfg (run cfg s a) b :=
  foldl_append

theorem run_invariant (cfg : Cfg) (I : Sys → Prop) (as : List Act) (s : Sys)
    (hstep : ∀ s, ∀ a ∈ as, I s → I (step cfg s a)) (h : I s) : I (run cfg s as) := by
  induction as generalizing s with
  | nil => exact h
  | cons a as ih =>
    exact ih _ (fun s b hb => hstep s b (mem_cons_of_mem _ hb)) (hstep s a mem_cons_self h)

theorem run_count (cfg : Cfg) (k : Kind) (as : List Act) (s : Sys) :
    liveOf k (run cfg s as) ≤ liveOf k s + spawnedOf k as ∧
    (cfg.hasExit k = false → liveOf k (run cfg s as) = liveOf k s + spawnedOf k as) := by
  induction as generalizing s with
  | nil => exact ⟨Nat.le_refl _, fun _ => rfl⟩
  | cons a as ih =>
    have h1 := (step_move cfg s a).liveOf_eq k
    have h2 := ih (step cfg s a)
    have e : spawnedOf k (a :: as) = spawnedOf k [a] + spawnedOf k as := spawnedOf_append k [a] as
    rw [run_cons, e]
    exact ⟨by omega, fun hk => by rw [h2.2 hk, h1.2 hk, Nat.add_assoc]⟩

theorem settle_count (cfg : Cfg) (k : Kind) (s : Sys) :
    liveOf k (settle cfg s) ≤ liveOf k s ∧
    (cfg.hasExit k = false → liveOf k (settle cfg s) = liveOf k s) := by
  have h := count_filter_idle k
    (fun w => !(cfg.hasExit w.kind && s.closed.contains w.call)) s.workers
  exact ⟨h.1, fun hk => h.2 fun w hw => by rw [hw, hk]; rfl⟩

theorem run_closed_mono (cfg : Cfg) (as : List Act) (s : Sys) (c : Nat) (h : c ∈ s.closed) :
    c ∈ (run cfg s as).closed :=
  run_invariant cfg (c ∈ ·.closed) as s (fun s a _ => (step_move cfg s a).closed c) h

theorem run_calls (cfg : Cfg) (c : Nat) (as : List Act) (s : Sys)
    (ha : as.all (Act.spawnsFor c) = true) (hs : ∀ w ∈ s.workers, w.call = c) :
    ∀ w ∈ (run cfg s as).workers, w.call = c :=
  run_invariant cfg (∀ w ∈ ·.workers, w.call = c) as s
    (fun s a hm h => (step_move cfg s a).calls c h (all_eq_true.mp ha a hm)) hs

/-! ### quiescence and termination of the workers' own moves -/

theorem quiescent_closed (cfg : Cfg) (s : Sys) (hq : quiescent cfg s) (w : Worker) (hw : w ∈ s.workers)
    (he : cfg.hasExit w.kind = true) : s.closed.contains w.call = false := by
  obtain ⟨i, hi⟩ := mem_getAt hw
  have h1 := (hq i).1
  have h2 := (hq i).2
  simp only [enabled, hi] at h1 h2
  simpa only [h1, he, Bool.not_false, Bool.true_and] using h2

/-- every move of the list is a worker move and is enabled when its turn comes -/
def enabledRun (cfg : Cfg) : Sys → List Act → Prop
  | _, [] => True
  | s, a :: as => a.internal = true ∧ enabled cfg s a = true ∧ enabledRun cfg (step cfg s a) as

theorem enabledRun_length (cfg : Cfg) (as : List Act) (s : Sys) (h : enabledRun cfg s as) :
    as.length + measure (run cfg s as).workers ≤ measure s.workers := by
  induction as generalizing s with
  | nil => exact Nat.le_of_eq (Nat.zero_add _)
  | cons a as ih =>
    obtain ⟨hi, he, hr⟩ := h
    have h1 := (step_move cfg s a).measure hi he
    have h2 := ih (step cfg s a) hr
    rw [run_cons, length_cons]; omega

/-! ### a call with exit paths and a shutdown leaves nothing behind -/

theorem simCall_spawnsFor (c P E t : Nat) (idx : List Nat) (shut : Bool) :
    (simCall c P E t idx shut).all (Act.spawnsFor c) = true := by
  cases shut <;> simp [simCall, launch, tick, Act.spawnsFor]

theorem simCall_settles_empty (cfg : Cfg) (hall : ∀ k, cfg.hasExit k = true) (c P E t : Nat)
    (idx : List Nat) (s : Sys) (hs : s.workers = []) :
    (settle cfg (run cfg s (simCall c P E t idx true))).workers = [] := by
  have hcalls := run_calls cfg c (simCall c P E t idx true) s (simCall_spawnsFor ..)
    (by rw [hs]; exact fun _ h => nomatch h)
  have hclosed : c ∈ (run cfg s (simCall c P E t idx true)).closed := by
    rw [simCall, if_pos rfl, run_append]
    exact mem_cons_self
  simp only [settle]
  rw [map_eq_nil_iff, filter_eq_nil_iff]
  intro w hw
  simp [hall w.kind, hcalls w hw, hclosed]

end BMV.Lifecycle
