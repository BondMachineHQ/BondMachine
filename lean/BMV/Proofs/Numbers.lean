/-
  Lemmas about BMV.Numbers: byte lists (`valOf_toBytesLE`, `toBytesLE_valOf`), digit strings
  (`ofDigits_digits`, length bound, character classes), classification of exported texts, the
  re-import of an unsigned text, `ImportUint`, and the well-formedness predicates of the round trips
  stated in BMV/Props/C08.lean.
-/
import BMV.Numbers

namespace BMV.Numbers

theorem valOf_toBytesLE : ∀ (n v : Nat), valOf (toBytesLE n v) = v % 256 ^ n
  | 0, v => by rw [Nat.pow_zero, Nat.mod_one]; rfl
  | n + 1, v => by
    rw [toBytesLE, valOf, valOf_toBytesLE n, Nat.pow_succ, Nat.mul_comm (256 ^ n) 256, Nat.mod_mul]

theorem toBytesLE_length : ∀ (n v : Nat), (toBytesLE n v).length = n
  | 0, _ => rfl
  | n + 1, v => congrArg (· + 1) (toBytesLE_length n (v / 256))

theorem bytesOK_toBytesLE : ∀ (n v : Nat), bytesOK (toBytesLE n v)
  | 0, _ => fun _ hb => nomatch hb
  | n + 1, v => List.forall_mem_cons.mpr ⟨Nat.mod_lt _ (by decide), bytesOK_toBytesLE n (v / 256)⟩

theorem toBytesLE_valOf : ∀ (bs : List Nat), bytesOK bs → toBytesLE bs.length (valOf bs) = bs
  | [], _ => rfl
  | b :: bs, h => by
    obtain ⟨hb, ht⟩ := List.forall_mem_cons.mp h
    rw [List.length_cons, toBytesLE, valOf, Nat.add_mul_mod_self_left, Nat.mod_eq_of_lt hb,
      Nat.add_mul_div_left _ _ (by decide), Nat.div_eq_of_lt hb, Nat.zero_add, toBytesLE_valOf bs ht]

theorem valOf_lt : ∀ (bs : List Nat), bytesOK bs → valOf bs < 256 ^ bs.length
  | [], _ => Nat.one_pos
  | b :: bs, h => by
    obtain ⟨hb, ht⟩ := List.forall_mem_cons.mp h
    have := valOf_lt bs ht
    rw [List.length_cons, valOf, Nat.pow_succ]
    omega

theorem pow256_eq (k : Nat) : (256 : Nat) ^ k = 2 ^ (8 * k) := (Nat.pow_mul 2 8 k).symm

theorem valOf_toBytesLE_of_lt {n v : Nat} (h : v < 2 ^ (8 * n)) : valOf (toBytesLE n v) = v := by
  rw [valOf_toBytesLE, Nat.mod_eq_of_lt (pow256_eq n ▸ h)]

theorem digitsAux_append (b : Nat) : ∀ (f n : Nat) (acc : List Nat),
    digitsAux b f n acc = digitsAux b f n [] ++ acc
  | 0, _, _ => rfl
  | f + 1, n, acc => by
    simp only [digitsAux]
    split
    · rfl
    · rw [digitsAux_append b f _ (_ :: acc), digitsAux_append b f _ [_], List.append_assoc]; rfl

theorem digitsAux_small {b f n : Nat} (h : n < b) : digitsAux b (f + 1) n [] = [digitChar n] := by
  rw [digitsAux, if_pos h]

theorem digitsAux_big {b f n : Nat} (h : ¬ n < b) :
    digitsAux b (f + 1) n [] = digitsAux b f (n / b) [] ++ [digitChar (n % b)] := by
  rw [digitsAux, if_neg h, digitsAux_append]

theorem digits_ne_nil (b n : Nat) : digits b n ≠ [] := by
  unfold digits
  by_cases hn : n < b
  · rw [digitsAux_small hn]; exact List.cons_ne_nil _ _
  · rw [digitsAux_big hn]; exact List.append_ne_nil_of_right_ne_nil _ (List.cons_ne_nil _ _)

theorem ofDigits_snoc (b : Nat) (xs : List Nat) (c : Nat) :
    ofDigits b (xs ++ [c]) = ofDigits b xs * b + digitVal c := by
  simp only [ofDigits, List.foldl_append, List.foldl_cons, List.foldl_nil]

theorem digitVal_digitChar : ∀ d < 16, digitVal (digitChar d) = d := by decide

theorem ofDigits_digitsAux {b : Nat} (hb2 : 2 ≤ b) (hb16 : b ≤ 16) : ∀ (f n : Nat), n < f →
    ofDigits b (digitsAux b f n []) = n
  | f + 1, n, h => by
    by_cases hn : n < b
    · rw [digitsAux_small hn, ofDigits, List.foldl_cons, List.foldl_nil, Nat.zero_mul, Nat.zero_add]
      exact digitVal_digitChar n (Nat.lt_of_lt_of_le hn hb16)
    · have hlt : n / b < f := Nat.lt_of_lt_of_le (Nat.div_lt_self (by omega) hb2) (Nat.le_of_lt_succ h)
      rw [digitsAux_big hn, ofDigits_snoc, ofDigits_digitsAux hb2 hb16 f _ hlt,
        digitVal_digitChar _ (Nat.lt_of_lt_of_le (Nat.mod_lt n (by omega)) hb16)]
      exact Nat.div_add_mod' n b

theorem ofDigits_digits {b : Nat} (hb2 : 2 ≤ b) (hb16 : b ≤ 16) (n : Nat) :
    ofDigits b (digits b n) = n :=
  ofDigits_digitsAux hb2 hb16 (n + 1) n (Nat.lt_succ_self n)

theorem digitsAux_length_le {b : Nat} (hb : 2 ≤ b) : ∀ (f n k : Nat), n < b ^ k → 1 ≤ k →
    (digitsAux b f n []).length ≤ k
  | 0, _, _, _, _ => Nat.zero_le _
  | f + 1, n, k + 1, hk, _ => by
    by_cases hn : n < b
    · rw [digitsAux_small hn]; exact Nat.succ_le_succ (Nat.zero_le k)
    · rw [digitsAux_big hn, List.length_append]
      have hdiv : n / b < b ^ k := Nat.div_lt_of_lt_mul (by rwa [Nat.pow_succ, Nat.mul_comm] at hk)
      have hk1 : 1 ≤ k := by
        cases k with
        | zero => exact absurd (by simpa using hk) hn
        | succ j => exact Nat.succ_le_succ (Nat.zero_le j)
      exact Nat.succ_le_succ (digitsAux_length_le hb f _ k hdiv hk1)

theorem digits_length_le {b : Nat} (hb : 2 ≤ b) {n k : Nat} (hk : n < b ^ k) (h1 : 1 ≤ k) :
    (digits b n).length ≤ k := digitsAux_length_le hb _ _ _ hk h1

theorem allP_iff {p : Nat → Bool} : ∀ {s : List Nat}, allP p s = true ↔ ∀ c ∈ s, p c = true
  | [] => by simp [allP]
  | x :: xs => by rw [allP, Bool.and_eq_true, allP_iff, List.forall_mem_cons]

theorem allP_append {p : Nat → Bool} {a b : List Nat} :
    allP p (a ++ b) = true ↔ allP p a = true ∧ allP p b = true := by
  simp only [allP_iff, List.forall_mem_append]

theorem nonEmptyAll_iff {p : Nat → Bool} {s : List Nat} :
    nonEmptyAll p s = true ↔ s ≠ [] ∧ allP p s = true := by
  cases s <;> simp [nonEmptyAll]

theorem mem_of_nonEmptyAll {p : Nat → Bool} {s : List Nat} (h : nonEmptyAll p s = true) :
    ∀ c ∈ s, p c = true := allP_iff.mp (nonEmptyAll_iff.mp h).2

theorem allP_digitsAux {b : Nat} {p : Nat → Bool} (hb : 0 < b) (hp : ∀ d < b, p (digitChar d) = true) :
    ∀ (f n : Nat), allP p (digitsAux b f n []) = true
  | 0, _ => rfl
  | f + 1, n => by
    by_cases hn : n < b
    · rw [digitsAux_small hn, allP, hp n hn]; rfl
    · rw [digitsAux_big hn, allP_append, allP_digitsAux hb hp f, allP, hp _ (Nat.mod_lt n hb)]
      exact ⟨rfl, rfl⟩

theorem nonEmptyAll_digits {b : Nat} {p : Nat → Bool} (hb : 0 < b) (hp : ∀ d < b, p (digitChar d) = true)
    (n : Nat) : nonEmptyAll p (digits b n) = true :=
  nonEmptyAll_iff.mpr ⟨digits_ne_nil b n, allP_digitsAux hb hp _ _⟩

theorem dec_digits (n : Nat) : nonEmptyAll isDigit (digits 10 n) = true :=
  nonEmptyAll_digits (by decide) (by decide) n

theorem bin_digits (n : Nat) : nonEmptyAll isBinDigit (digits 2 n) = true :=
  nonEmptyAll_digits (by decide) (by decide) n

theorem hex_digits (n : Nat) : nonEmptyAll isHexDigit (digits 16 n) = true :=
  nonEmptyAll_digits (by decide) (by decide) n

theorem spanP_append {p : Nat → Bool} : ∀ {a : List Nat} {c : Nat} {b : List Nat},
    allP p a = true → p c = false → spanP p (a ++ c :: b) = (a, c :: b)
  | [], c, b, _, hc => by rw [List.nil_append, spanP, if_neg (by rw [hc]; decide)]
  | x :: xs, c, b, ha, hc => by
    rw [allP, Bool.and_eq_true] at ha
    rw [List.cons_append, spanP, if_pos ha.1, spanP_append ha.2 hc]

theorem spanP_all {p : Nat → Bool} : ∀ {a : List Nat}, allP p a = true → spanP p a = (a, [])
  | [], _ => rfl
  | x :: xs, ha => by
    rw [allP, Bool.and_eq_true] at ha
    rw [spanP, if_pos ha.1, spanP_all ha.2]

theorem classify_digits {s : List Nat} (h : nonEmptyAll isDigit s = true) :
    classify s = .unsignedNoSize s := by
  have h2 := mem_of_nonEmptyAll h
  unfold classify
  split
  -- a prefixed text has a letter in second place, a decimal string a digit
  iterate 8 exact absurd (h2 _ (List.mem_cons_of_mem _ List.mem_cons_self)) (by decide)
  exact if_pos h

theorem sizedTail_ok {p : Nat → Bool} {mk : List Nat → List Nat → Lit} {sz body : List Nat}
    (hsz : nonEmptyAll isDigit sz = true) (hb : nonEmptyAll p body = true) :
    sizedTail p mk (sz ++ 62 :: body) = mk sz body := by
  obtain ⟨hne, hall⟩ := nonEmptyAll_iff.mp hsz
  unfold sizedTail
  rw [spanP_append hall (by decide)]
  cases sz with
  | nil => exact absurd rfl hne
  | cons x xs => exact if_pos hb

theorem classify_bin_sized (n val : Nat) :
    classify ([48, 98, 60] ++ digits 10 n ++ [62] ++ digits 2 val) = .binSized (digits 10 n) (digits 2 val) := by
  rw [List.append_assoc, List.append_assoc]
  exact sizedTail_ok (dec_digits n) (bin_digits val)

theorem classify_hex_sized (n val : Nat) :
    classify ([48, 120, 60] ++ digits 10 n ++ [62] ++ digits 16 val) = .hexSized (digits 10 n) (digits 16 val) := by
  rw [List.append_assoc, List.append_assoc]
  exact sizedTail_ok (dec_digits n) (hex_digits val)

theorem atoi_digits {n : Nat} (h : n < two63) : atoi (digits 10 n) = some n := by
  rw [atoi, ofDigits_digits (by decide) (by decide)]; exact if_pos h

theorem classify_signed_neg {s : List Nat} (h : nonEmptyAll isDigit s = true) :
    classify (48 :: 115 :: 45 :: s) = .signed true s := if_pos h

theorem signedTail_digits {s : List Nat} (h : nonEmptyAll isDigit s = true) :
    signedTail s = .signed false s := by
  unfold signedTail
  split
  · exact absurd (mem_of_nonEmptyAll h 45 List.mem_cons_self) (by decide)
  · exact if_pos h

/-- `0s` followed by a decimal string is not taken for `0sd…`: a digit is not `d` -/
theorem classify_signed_pos {s : List Nat} (h : nonEmptyAll isDigit s = true) :
    classify (48 :: 115 :: s) = .signed false s := by
  have h2 := mem_of_nonEmptyAll h
  unfold classify
  split
  case h_3 heq => cases heq; exact absurd (h2 100 List.mem_cons_self) (by decide)
  case h_4 heq => cases heq; exact signedTail_digits h
  case h_9 h0s _ _ _ _ => exact absurd rfl (h0s s)
  all_goals (rename_i heq; simp at heq)

theorem unsignedTail_digits {s : List Nat} (h : nonEmptyAll isDigit s = true) :
    unsignedTail s = .unsignedNoSize s := by
  obtain ⟨hne, hall⟩ := nonEmptyAll_iff.mp h
  unfold unsignedTail
  split
  · exact absurd (mem_of_nonEmptyAll h 60 List.mem_cons_self) (by decide)
  · rw [spanP_all hall]
    cases s with
    | nil => exact absurd rfl hne
    | cons x xs => rfl

/-- a `bin` value as the importers build it -/
structure WFBin (v : BMNumber) : Prop where
  ty : v.ty = .bin
  ok : bytesOK v.bytes
  len : v.bytes.length = (v.bits - 1) / 8 + 1
  pos : 1 ≤ v.bits
  small : v.bits < two63
  fits : valOf v.bytes < 2 ^ v.bits

/-- a `hex` value: whole bytes -/
structure WFHex (v : BMNumber) : Prop where
  ty : v.ty = .hex
  ok : bytesOK v.bytes
  mult : v.bits % 8 = 0
  pos : 8 ≤ v.bits
  small : v.bits < two63
  fits : valOf v.bytes < 2 ^ v.bits

/-- an unsigned value of the un-sized notations: 64 bits in 8 bytes -/
structure WFU64 (v : BMNumber) : Prop where
  ty : v.ty = .unsigned
  ok : bytesOK v.bytes
  len : v.bytes.length = 8
  bits : v.bits = 64

/-- a signed value: 64 bits in 8 bytes -/
structure WFS64 (v : BMNumber) : Prop where
  ty : v.ty = .signed
  ok : bytesOK v.bytes
  len : v.bytes.length = 8
  bits : v.bits = 64

theorem valOf_lt_two64 {bs : List Nat} (ok : bytesOK bs) (len : bs.length ≤ 8) : valOf bs < two64 :=
  Nat.lt_of_lt_of_le (valOf_lt bs ok) (Nat.pow_le_pow_right (by decide) len)

/-- what the implementation does to *any* unsigned value that fits 8 bytes: the text carries no
    width, so the re-imported number always has 64 bits -/
theorem unsigned_reimport_is_64 (v : BMNumber) (hty : v.ty = .unsigned) (ok : bytesOK v.bytes)
    (len : v.bytes.length ≤ 8) :
    (exportString v).bind importString = some ⟨toBytesLE 8 (valOf v.bytes), 64, .unsigned⟩ := by
  rw [exportString, hty]
  simp only [if_neg (Nat.not_lt.mpr len), Option.bind_some, importString, classify_digits (dec_digits _),
    importLit, ofDigits_digits (by decide : 2 ≤ 10) (by decide : 10 ≤ 16), valOf_lt_two64 ok len, if_true]

theorem importUint_native (w v : Nat) {optBits : Int} (h : optBits ≤ 0) :
    importUint w v optBits = ⟨toBytesLE (w / 8) v, w, .unsigned⟩ := if_neg (Int.not_lt.mpr h)

theorem importUint_override (w v : Nat) {optBits : Int} (h : 0 < optBits) :
    importUint w v optBits =
      ⟨toBytesLE ((optBits.toNat + 7) / 8) (v % 2 ^ optBits.toNat), optBits.toNat, .unsigned⟩ := if_pos h

/-- the width field after `ImportUint`: the override only when positive, else the native width
    (in particular for the 'any size' sentinel −1 the simulator passes for hex / bin / unsigned) -/
theorem importUint_bits_sentinel (w v : Nat) (optBits : Int) (h : optBits ≤ 0) :
    (importUint w v optBits).bits = w := by
  rw [importUint_native w v h]

theorem importUint_bits_override (w v : Nat) (optBits : Int) (h : 0 < optBits) :
    (importUint w v optBits).bits = optBits.toNat := by
  rw [importUint_override w v h]

theorem valOf_importUint {w v : Nat} {optBits : Int} (hob : optBits ≤ 0) (hv : v < 2 ^ w) (hw : w % 8 = 0) :
    valOf (importUint w v optBits).bytes = v := by
  rw [importUint_native w v hob]
  exact valOf_toBytesLE_of_lt (by rwa [Nat.mul_div_cancel' (Nat.dvd_of_mod_eq_zero hw)])

theorem exportUint64_importUint {w v : Nat} {optBits : Int} (hob : optBits ≤ 0) (hv : v < 2 ^ w) (hw : w % 8 = 0)
    (h64 : w ≤ 64) : exportUint64 (importUint w v optBits) = some v := by
  rw [exportUint64, valOf_importUint hob hv hw, importUint_native w v hob]
  exact if_neg (by rw [toBytesLE_length]; omega)

theorem valOf_reverse_importBytes (be : List Nat) (bits : Nat) :
    valOf (importBytes be bits).bytes = valOf be.reverse := rfl

/-- the simulator's show path for a bin register: `ImportUint(v, -1)`, `CastType(bin)` is a
    well-formed bin value of the register's width, so the bin round trip applies to it -/
theorem show_bin_wf {w v : Nat} (hv : v < 2 ^ w) (hw : w % 8 = 0) (hpos : 8 ≤ w) (h64 : w ≤ 64) :
    WFBin (castType (importUint w v (-1)) .bin) := by
  have hval := valOf_importUint (optBits := -1) (by decide) hv hw
  rw [importUint_native w v (by decide)] at hval ⊢
  exact ⟨rfl, bytesOK_toBytesLE _ _, (toBytesLE_length _ _).trans (by show w / 8 = (w - 1) / 8 + 1; omega), by show 1 ≤ w; omega,
    by show w < two63; unfold two63; omega, hval.symm ▸ hv⟩

theorem show_hex_wf {w v : Nat} (hv : v < 2 ^ w) (hw : w % 8 = 0) (hpos : 8 ≤ w) (h64 : w ≤ 64) :
    WFHex (castType (importUint w v (-1)) .hex) := by
  have hval := valOf_importUint (optBits := -1) (by decide) hv hw
  rw [importUint_native w v (by decide)] at hval ⊢
  exact ⟨rfl, bytesOK_toBytesLE _ _, hw, hpos, by show w < two63; unfold two63; omega, hval.symm ▸ hv⟩

theorem removeAll2_clean (a b : Nat) : ∀ (s : List Nat), (∀ c ∈ s, c ≠ b) → removeAll2 a b s = s := by
  intro s
  fun_induction removeAll2 a b s with
  | case1 x y rest hc ih => exact fun h => absurd hc.2 (h y (by simp))
  | case2 x y rest hc ih => intro h; rw [ih (fun c hc => h c (List.mem_cons_of_mem _ hc))]
  | case3 s hs => intro _; rfl

theorem removeAll2_prefix (a b : Nat) (s : List Nat) : removeAll2 a b (a :: b :: s) = removeAll2 a b s := by
  rw [removeAll2, if_pos ⟨rfl, rfl⟩]

theorem sized_text_clean {p : Nat → Bool} {l : Nat} (hl : isDigit l = false ∧ p l = false ∧ l ≠ 60 ∧ l ≠ 62)
    {sz ds : List Nat} (hsz : nonEmptyAll isDigit sz = true) (hds : nonEmptyAll p ds = true) :
    ∀ c ∈ [60] ++ sz ++ [62] ++ ds, c ≠ l := by
  intro c hc heq
  subst heq
  simp only [List.mem_append, List.mem_singleton] at hc
  rcases hc with ((rfl | hc) | rfl) | hc
  · exact hl.2.2.1 rfl
  · exact absurd (mem_of_nonEmptyAll hsz c hc) (by rw [hl.1]; decide)
  · exact hl.2.2.2 rfl
  · exact absurd (mem_of_nonEmptyAll hds c hc) (by rw [hl.2.1]; decide)

theorem zeros_length (n : Nat) : (zeros n).length = n := List.length_replicate

end BMV.Numbers
