/-
  C18, `wf_total`: the Hoare-style predicate `Safe` ("not an elaboration-class error, and the result
  satisfies P") and the proof that every evaluator of `Sem.lean` — widths, expressions with all
  operators, selects, memories and division, write lists, statements, `settle`, `init`, `cycle`,
  `poke` — is `Safe` on well-formed (identifier-free, in-range) input.
-/
import BMV.Proofs.VlogTotal
namespace BMV.Vlog

/-- `Safe P r`: `r` is not an elaboration-class error, and a successful result satisfies `P` -/
def Safe {α : Type} (P : α → Prop) (r : R α) : Prop :=
  (∀ msg, r = .error msg → ElabClassError msg = false) ∧ ∀ a, r = .ok a → P a

abbrev Safe0 {α : Type} (r : R α) : Prop := Safe (fun _ => True) r

theorem Safe.pure {α : Type} {P : α → Prop} {a : α} (h : P a) : Safe P (Pure.pure a : R α) :=
  ⟨nofun, fun _ h' => by cases h'; exact h⟩

theorem Safe.pure0 {α : Type} {a : α} : Safe0 (Pure.pure a : R α) := Safe.pure trivial

theorem Safe.throw {α : Type} {P : α → Prop} {m : String} (h : ElabClassError m = false) :
    Safe P (throw m : R α) :=
  ⟨fun _ h' => by cases h'; exact h, nofun⟩

theorem Safe.bind {α β : Type} {Q : α → Prop} {P : β → Prop} {x : R α} {f : α → R β}
    (hx : Safe Q x) (hf : ∀ a, Q a → Safe P (f a)) : Safe P (x >>= f) := by
  cases x with
  | error e => exact ⟨fun m h => hx.1 m (Except.error.inj h ▸ rfl), nofun⟩
  | ok a => exact hf a (hx.2 a rfl)

theorem Safe.bind0 {α β : Type} {P : β → Prop} {x : R α} {f : α → R β}
    (hx : Safe0 x) (hf : ∀ a, Safe P (f a)) : Safe P (x >>= f) := hx.bind fun a _ => hf a

theorem Safe.mono {α : Type} {P Q : α → Prop} {r : R α} (h : Safe P r) (hpq : ∀ a, P a → Q a) : Safe Q r :=
  ⟨h.1, fun a ha => hpq a (h.2 a ha)⟩

theorem Safe.ite {α : Type} {P : α → Prop} {c : Prop} [Decidable c] {a b : R α}
    (ha : c → Safe P a) (hb : ¬c → Safe P b) : Safe P (if c then a else b) := by
  split
  · exact ha ‹_›
  · exact hb ‹_›

/-! Every evaluation-class message of `Sem.lean` starts with a literal whose first character is
    neither `u` (`undeclared identifier`) nor `i` (`internal:`); that character is all that is
    looked at. -/

def headOk (m : String) : Bool :=
  match m.toList with
  | c :: _ => c != 'u' && c != 'i'
  | [] => false

theorem headOk_append {a : String} (b : String) (h : headOk a = true) : headOk (a ++ b) = true := by
  unfold headOk at h ⊢
  rw [String.toList_append]
  cases ha : a.toList with
  | nil => simp [ha] at h
  | cons c cs => simpa [ha] using h

/-- a string literal unifies with `String.ofList (c :: cs)` without being evaluated -/
theorem headOk_lit {c : Char} {cs : List Char} (h : (c != 'u' && c != 'i') = true) :
    headOk (String.ofList (c :: cs)) = true := by
  unfold headOk
  rw [String.toList_ofList]
  exact h

theorem not_elabClass {m : String} (h : headOk m = true) : ElabClassError m = false := by
  unfold headOk at h
  cases hm : m.toList with
  | nil => simp [hm] at h
  | cons c cs =>
    simp only [hm, Bool.and_eq_true, bne_iff_ne, ne_eq] at h
    show (List.isPrefixOf (String.ofList ('u' :: _)).toList _ ||
      List.isPrefixOf (String.ofList ('i' :: _)).toList _) = false
    simp [hm, List.isPrefixOf, Ne.symm h.1, Ne.symm h.2]

theorem Safe.throw_lit {α : Type} {P : α → Prop} {c : Char} {cs : List Char}
    (h : (c != 'u' && c != 'i') = true) : Safe P (MonadExcept.throw (String.ofList (c :: cs)) : R α) :=
  Safe.throw (not_elabClass (headOk_lit h))

theorem headOk_foldl : ∀ (xs : List String) {a : String}, headOk a = true → headOk (xs.foldl (· ++ ·) a) = true
  | [], _, h => h
  | x :: xs, _, h => headOk_foldl xs (headOk_append x h)

/-- `s!"literal{x₁}…{xₙ}"` is `literal ++ x₁ ++ … ++ xₙ`: call with `[_, …, _]`, one `_` for each appended piece -/
theorem Safe.throw_msg {α : Type} {P : α → Prop} {c : Char} {cs : List Char} (xs : List String)
    (h : (c != 'u' && c != 'i') = true) :
    Safe P (MonadExcept.throw (xs.foldl (· ++ ·) (String.ofList (c :: cs))) : R α) :=
  Safe.throw (not_elabClass (headOk_foldl xs (headOk_lit h)))

theorem getSig_safe (sigs : Array Sig) (i : Nat) (h : i < sigs.size) : Safe0 (getSig sigs i) := by
  unfold getSig
  rw [Array.getElem?_eq_getElem h]
  exact Safe.pure0

theorem rdWord_safe (st : State) (sigs : Array Sig) (i k : Nat) (h : i < st.size) : Safe0 (rdWord st sigs i k) := by
  unfold rdWord
  rw [Array.getElem?_eq_getElem h]
  dsimp only
  split
  · exact Safe.pure0
  · exact Safe.throw_msg [_, _, _] (by decide)

theorem constNat_safe (e : Expr) : Safe0 (constNat e) := by
  unfold constNat
  split
  · exact Safe.pure0
  · exact Safe.throw_lit (by decide)

theorem partOf_safe (name : String) (v lsb width lo w : Nat) : Safe0 (partOf name v lsb width lo w) :=
  Safe.ite (fun _ => Safe.throw_msg [_, _, _, _, _] (by decide)) (fun _ => Safe.pure0)

theorem memIndex_safe (s : Sig) (k : Nat) : Safe0 (memIndex s k) :=
  Safe.ite (fun _ => Safe.throw_msg [_, _, _] (by decide)) (fun _ => Safe.pure0)

theorem selfW_idx (sigs : Array Sig) (b x : Expr) : selfW sigs (.idx b x) =
    match b with
    | .sig i => do let s ← getSig sigs i; pure (if s.depth > 0 then s.width else 1)
    | _ => pure 1 := by
  cases b <;> rfl

mutual
theorem selfW_safe (sigs : Array Sig) : ∀ (e : Expr), wfE sigs.size e = true → Safe0 (selfW sigs e)
  | .num (some _) _, _ | .num none _, _ => Safe.pure0
  | .id n, h => nomatch h
  | .sig i, h => by
    unfold selfW
    refine (getSig_safe sigs i (of_decide_eq_true h)).bind0 fun s => ?_
    exact Safe.ite (fun _ => Safe.throw_msg [_, _] (by decide)) (fun _ => Safe.pure0)
  | .idx b x, h => by
    rw [selfW_idx]
    split
    · simp only [wfE, Bool.and_eq_true, decide_eq_true_eq] at h
      exact (getSig_safe sigs _ h.1).bind0 fun s => Safe.pure0
    · exact Safe.pure0
  | .rng b m l, _ => by
    unfold selfW
    refine (constNat_safe m).bind0 fun m => (constNat_safe l).bind0 fun l => ?_
    exact Safe.ite (fun _ => Safe.throw_msg [_, _, _, _] (by decide)) (fun _ => Safe.pure0)
  | .ipart b s w up, _ => constNat_safe w
  | .cat es, h => selfWL_safe sigs es h
  | .rep c es, h => by
    unfold selfW
    simp only [wfE, Bool.and_eq_true] at h
    exact (constNat_safe c).bind0 fun _ => (selfWL_safe sigs es h.2).bind0 fun _ => Safe.pure0
  | .un op e, h => by
    have hE := selfW_safe sigs e h
    unfold selfW
    cases op
    case bnot | neg | plus => exact hE
    all_goals exact Safe.pure0
  | .bin op a b, h => by
    simp only [wfE, Bool.and_eq_true] at h
    have hA := selfW_safe sigs a h.1
    have hB := selfW_safe sigs b h.2
    unfold selfW
    cases op
    case shl | shr => exact hA
    case land | lor | eq | ne | lt | gt | le | ge => exact Safe.pure0
    all_goals exact hA.bind0 fun _ => hB.bind0 fun _ => Safe.pure0
  | .cond c a b, h => by
    simp only [wfE, Bool.and_eq_true] at h
    unfold selfW
    exact (selfW_safe sigs a h.1.2).bind0 fun _ => (selfW_safe sigs b h.2).bind0 fun _ => Safe.pure0
theorem selfWL_safe (sigs : Array Sig) : ∀ (es : List Expr), wfEL sigs.size es = true → Safe0 (selfWL sigs es)
  | [], _ => Safe.pure0
  | e :: es, h => by
    simp only [wfEL, Bool.and_eq_true] at h
    unfold selfWL
    exact (selfW_safe sigs e h.1).bind0 fun _ => (selfWL_safe sigs es h.2).bind0 fun _ => Safe.pure0
end

theorem evalBase_idx (sigs : Array Sig) (st : State) (b a : Expr) : evalBase sigs st (.idx b a) =
    match b with
    | .sig j => do
      let s ← getSig sigs j
      if s.depth == 0 then throw s!"select of a bit-select of {s.name}" else
      let k ← evalC sigs st (← selfW sigs a) a
      pure (s.name, ← rdWord st sigs j (← memIndex s k), s.lsb, s.width)
    | _ => throw "select applied to an expression that is not a signal or a memory word" := by
  cases b <;> rfl

theorem notBase_safe {α : Type} :
    Safe0 (throw "select applied to an expression that is not a signal or a memory word" : R α) :=
  Safe.throw_lit (by decide)

mutual
theorem evalC_safe (sigs : Array Sig) (st : State) (hst : sigs.size ≤ st.size) :
    ∀ (e : Expr), wfE sigs.size e = true → ∀ (W : Nat), Safe0 (evalC sigs st W e)
  | .num (some _) _, _, _ | .num none _, _, _ => Safe.pure0
  | .id n, h, _ => nomatch h
  | .sig i, h, _ => by
    have hi : i < sigs.size := of_decide_eq_true h
    unfold evalC
    refine (getSig_safe sigs i hi).bind0 fun s => ?_
    exact Safe.ite (fun _ => Safe.throw_msg [_, _] (by decide)) (fun _ => rdWord_safe st sigs i 0 (by omega))
  | .idx b i, h, W => by
    simp only [wfE, Bool.and_eq_true] at h
    unfold evalC
    refine (selfW_safe sigs i h.2).bind0 fun w => (evalC_safe sigs st hst i h.2 w).bind0 fun k => ?_
    split
    · next j =>
      have hj : j < sigs.size := of_decide_eq_true h.1
      refine (getSig_safe sigs j hj).bind0 fun s => Safe.ite (fun _ => ?_) (fun _ => ?_)
      · exact (memIndex_safe s k).bind0 fun _ => rdWord_safe st sigs j _ (by omega)
      · exact (rdWord_safe st sigs j 0 (by omega)).bind0 fun _ => partOf_safe ..
    · exact (evalBase_safe sigs st hst b h.1).bind0 fun _ => partOf_safe ..
  | .rng b m l, h, W => by
    simp only [wfE, Bool.and_eq_true] at h
    unfold evalC
    refine (constNat_safe m).bind0 fun m => (constNat_safe l).bind0 fun l => ?_
    refine Safe.ite (fun _ => Safe.throw_msg [_, _, _, _] (by decide)) (fun _ => ?_)
    exact (evalBase_safe sigs st hst b h.1.1).bind0 fun _ => partOf_safe ..
  | .ipart b s w up, h, W => by
    simp only [wfE, Bool.and_eq_true] at h
    unfold evalC
    refine (constNat_safe w).bind0 fun w => (selfW_safe sigs s h.1.2).bind0 fun ws =>
      (evalC_safe sigs st hst s h.1.2 ws).bind0 fun k => (evalBase_safe sigs st hst b h.1.1).bind0 fun r => ?_
    refine Safe.ite (fun _ => partOf_safe ..) (fun _ => ?_)
    exact Safe.ite (fun _ => Safe.throw_msg [_, _, _, _, _] (by decide)) (fun _ => partOf_safe ..)
  | .cat es, h, W => by
    unfold evalC
    exact (evalCat_safe sigs st hst es h).bind0 fun _ => Safe.pure0
  | .rep c es, h, W => by
    simp only [wfE, Bool.and_eq_true] at h
    unfold evalC
    exact (constNat_safe c).bind0 fun _ => (evalCat_safe sigs st hst es h.2).bind0 fun _ => Safe.pure0
  | .un op e, h, W => by
    have hS := selfW_safe sigs e h
    have hE := evalC_safe sigs st hst e h
    unfold evalC
    cases op
    case plus => exact hE W
    case bnot | neg => exact (hE W).bind0 fun _ => Safe.pure0
    all_goals exact hS.bind0 fun w => (hE w).bind0 fun _ => Safe.pure0
  | .bin op a b, h, W => by
    simp only [wfE, Bool.and_eq_true] at h
    have hSA := selfW_safe sigs a h.1
    have hSB := selfW_safe sigs b h.2
    have hA := evalC_safe sigs st hst a h.1
    have hB := evalC_safe sigs st hst b h.2
    unfold evalC
    cases op
    case shl | shr => exact (hA W).bind0 fun _ => hSB.bind0 fun w => (hB w).bind0 fun _ => Safe.pure0
    case land | lor =>
      exact hSA.bind0 fun w => (hA w).bind0 fun _ => hSB.bind0 fun w => (hB w).bind0 fun _ => Safe.pure0
    case eq | ne | lt | gt | le | ge =>
      exact hSA.bind0 fun _ => hSB.bind0 fun _ => (hA _).bind0 fun _ => (hB _).bind0 fun _ => Safe.pure0
    all_goals exact (hA W).bind0 fun _ => (hB W).bind0 fun _ => Safe.pure0
  | .cond c a b, h, W => by
    simp only [wfE, Bool.and_eq_true] at h
    unfold evalC
    refine (selfW_safe sigs c h.1.1).bind0 fun w => (evalC_safe sigs st hst c h.1.1 w).bind0 fun cv => ?_
    exact Safe.ite (fun _ => evalC_safe sigs st hst a h.1.2 W) (fun _ => evalC_safe sigs st hst b h.2 W)
theorem evalBase_safe (sigs : Array Sig) (st : State) (hst : sigs.size ≤ st.size) :
    ∀ (e : Expr), wfE sigs.size e = true → Safe0 (evalBase sigs st e)
  | .sig j, h => by
    have hj : j < sigs.size := of_decide_eq_true h
    unfold evalBase
    refine (getSig_safe sigs j hj).bind0 fun s => Safe.ite (fun _ => Safe.throw_msg [_, _] (by decide)) (fun _ => ?_)
    exact (rdWord_safe st sigs j 0 (by omega)).bind0 fun _ => Safe.pure0
  | .idx b a, h => by
    simp only [wfE, Bool.and_eq_true] at h
    rw [evalBase_idx]
    split
    · next j =>
      have hj : j < sigs.size := of_decide_eq_true h.1
      refine (getSig_safe sigs j hj).bind0 fun s => Safe.ite (fun _ => Safe.throw_msg [_] (by decide)) (fun _ => ?_)
      refine (selfW_safe sigs a h.2).bind0 fun w => (evalC_safe sigs st hst a h.2 w).bind0 fun k => ?_
      exact (memIndex_safe s k).bind0 fun _ => (rdWord_safe st sigs j _ (by omega)).bind0 fun _ => Safe.pure0
    · exact notBase_safe
  | .id n, h => nomatch h
  | .num _ _, _ | .rng _ _ _, _ | .ipart _ _ _ _, _ | .cat _, _ | .rep _ _, _ | .un _ _, _ | .bin _ _ _, _
  | .cond _ _ _, _ => notBase_safe
theorem evalCat_safe (sigs : Array Sig) (st : State) (hst : sigs.size ≤ st.size) :
    ∀ (es : List Expr), wfEL sigs.size es = true → Safe0 (evalCat sigs st es)
  | [], _ => Safe.pure0
  | e :: es, h => by
    simp only [wfEL, Bool.and_eq_true] at h
    unfold evalCat
    refine (selfW_safe sigs e h.1).bind0 fun w => (evalC_safe sigs st hst e h.1 w).bind0 fun _ => ?_
    exact (evalCat_safe sigs st hst es h.2).bind0 fun _ => Safe.pure0
end

theorem evalSelf_safe (sigs : Array Sig) (st : State) (hst : sigs.size ≤ st.size) (e : Expr)
    (h : wfE sigs.size e = true) : Safe0 (evalSelf sigs st e) :=
  (selfW_safe sigs e h).bind0 fun w => evalC_safe sigs st hst e h w

theorem evalAssign_safe (sigs : Array Sig) (st : State) (hst : sigs.size ≤ st.size) (lw : Nat) (e : Expr)
    (h : wfE sigs.size e = true) : Safe0 (evalAssign sigs st lw e) :=
  (selfW_safe sigs e h).bind0 fun _ => (evalC_safe sigs st hst e h _).bind0 fun _ => Safe.pure0

theorem foldlM_safe {α β : Type} {P : β → Prop} (f : β → α → R β) :
    ∀ (l : List α) (b : β), P b → (∀ b a, a ∈ l → P b → Safe P (f b a)) → Safe P (l.foldlM f b)
  | [], b, hb, _ => Safe.pure hb
  | a :: l, b, hb, hf => by
    rw [List.foldlM_cons]
    refine (hf b a (List.mem_cons_self ..) hb).bind fun b' hb' => ?_
    exact foldlM_safe f l b' hb' fun b a ha hb => hf b a (List.mem_cons_of_mem _ ha) hb

theorem applyWrite_safe (sigs : Array Sig) (st : State) (n : Nat) (hst : n ≤ st.size) (w : Write) (hw : w.sig < n) :
    Safe (fun st' : State => n ≤ st'.size) (applyWrite sigs st w) := by
  have hlt : w.sig < st.size := by omega
  unfold applyWrite
  refine (rdWord_safe st sigs _ _ hlt).bind0 fun old => ?_
  rw [Array.getElem?_eq_getElem hlt]
  exact Safe.pure (by rw [Array.set!, Array.size_setIfInBounds]; exact hst)

/-- every write of the list addresses one of the first `n` signals -/
def WritesOk (n : Nat) (ws : List Write) : Prop := ∀ w, w ∈ ws → w.sig < n

theorem WritesOk.nil {n : Nat} : WritesOk n [] := nofun

theorem WritesOk.single {n : Nat} {w : Write} (h : w.sig < n) : WritesOk n [w] := by
  intro w' hw'; rw [List.mem_singleton.mp hw']; exact h

theorem WritesOk.append {n : Nat} {a b : List Write} (ha : WritesOk n a) (hb : WritesOk n b) : WritesOk n (a ++ b) :=
  fun w hw => (List.mem_append.mp hw).elim (ha w) (hb w)

theorem WritesOk.push {n : Nat} {a b : Array Write} (ha : WritesOk n a.toList) (hb : WritesOk n b.toList) :
    WritesOk n (a ++ b).toList := by
  rw [Array.toList_append]; exact ha.append hb

theorem applyWritesL_safe (sigs : Array Sig) (n : Nat) (ws : List Write) (hws : WritesOk n ws) (st : State)
    (hst : n ≤ st.size) : Safe (fun st' : State => n ≤ st'.size) (ws.foldlM (applyWrite sigs) st) :=
  foldlM_safe (P := fun st' : State => n ≤ st'.size) (applyWrite sigs) ws st hst
    fun b a ha hb => applyWrite_safe sigs b n hb a (hws a ha)

theorem applyWrites_safe (sigs : Array Sig) (n : Nat) (ws : Array Write) (hws : WritesOk n ws.toList) (st : State)
    (hst : n ≤ st.size) : Safe (fun st' : State => n ≤ st'.size) (applyWrites sigs st ws) := by
  unfold applyWrites
  rw [← Array.foldlM_toList]
  exact applyWritesL_safe sigs n ws.toList hws st hst

theorem partWrite_safe (s : Sig) (j word lo w v n : Nat) (hj : j < n) :
    Safe (fun wr : Write => wr.sig < n) (partWrite s j word lo w v) :=
  Safe.ite (fun _ => Safe.throw_msg [_, _, _, _, _, _] (by decide)) (fun _ => Safe.pure hj)

theorem partWrite1_safe (s : Sig) (j word lo w v n : Nat) (hj : j < n) :
    Safe (WritesOk n) (do pure [← partWrite s j word lo w v]) :=
  (partWrite_safe s j word lo w v n hj).bind fun _ hw => Safe.pure (WritesOk.single hw)

theorem lhsBase_idx (sigs : Array Sig) (st : State) (b a : Expr) : lhsBase sigs st (.idx b a) =
    match b with
    | .sig j => do
      let s ← getSig sigs j
      if s.depth == 0 then throw s!"select of a bit-select of {s.name} on the left-hand side" else
      let k ← evalSelf sigs st a
      pure (s, j, ← memIndex s k)
    | _ => throw "left-hand side is not a signal, select or concatenation" := by
  cases b <;> rfl

theorem notLhs_safe {α : Type} {P : α → Prop} :
    Safe P (throw "left-hand side is not a signal, select or concatenation" : R α) :=
  Safe.throw_lit (by decide)

theorem lhsBase_safe (sigs : Array Sig) (st : State) (hst : sigs.size ≤ st.size) :
    ∀ (e : Expr), wfE sigs.size e = true →
      Safe (fun r : Sig × Nat × Nat => r.2.1 < sigs.size) (lhsBase sigs st e)
  | .sig j, h => by
    have hj : j < sigs.size := of_decide_eq_true h
    unfold lhsBase
    refine (getSig_safe sigs j hj).bind0 fun s => ?_
    exact Safe.ite (fun _ => Safe.throw_msg [_, _] (by decide)) (fun _ => Safe.pure hj)
  | .idx b a, h => by
    simp only [wfE, Bool.and_eq_true] at h
    rw [lhsBase_idx]
    split
    · next j =>
      have hj : j < sigs.size := of_decide_eq_true h.1
      refine (getSig_safe sigs j hj).bind0 fun s => Safe.ite (fun _ => Safe.throw_msg [_, _] (by decide)) (fun _ => ?_)
      exact (evalSelf_safe sigs st hst a h.2).bind0 fun k => (memIndex_safe s k).bind0 fun _ => Safe.pure hj
    · exact notLhs_safe
  | .id n, h => nomatch h
  | .num _ _, _ | .rng _ _ _, _ | .ipart _ _ _ _, _ | .cat _, _ | .rep _ _, _ | .un _ _, _ | .bin _ _ _, _
  | .cond _ _ _, _ => notLhs_safe

mutual
theorem mkWrites_safe (sigs : Array Sig) (st : State) (hst : sigs.size ≤ st.size) (v : Nat) :
    ∀ (e : Expr), wfE sigs.size e = true → Safe (WritesOk sigs.size) (mkWrites sigs st v e)
  | .sig j, h => by
    have hj : j < sigs.size := of_decide_eq_true h
    unfold mkWrites
    refine (getSig_safe sigs j hj).bind0 fun s => ?_
    exact Safe.ite (fun _ => Safe.throw_msg [_, _] (by decide)) (fun _ => Safe.pure (WritesOk.single hj))
  | .idx b i, h => by
    simp only [wfE, Bool.and_eq_true] at h
    unfold mkWrites
    refine (evalSelf_safe sigs st hst i h.2).bind0 fun k => ?_
    split
    · next j =>
      have hj : j < sigs.size := of_decide_eq_true h.1
      refine (getSig_safe sigs j hj).bind0 fun s => Safe.ite (fun _ => ?_) (fun _ => ?_)
      · exact (memIndex_safe s k).bind0 fun _ => Safe.pure (WritesOk.single hj)
      · exact partWrite1_safe s j 0 k 1 v _ hj
    · exact (lhsBase_safe sigs st hst b h.1).bind fun r hr => partWrite1_safe r.1 r.2.1 r.2.2 k 1 v _ hr
  | .rng b m l, h => by
    simp only [wfE, Bool.and_eq_true] at h
    unfold mkWrites
    refine (constNat_safe m).bind0 fun m' => (constNat_safe l).bind0 fun l' => ?_
    refine Safe.ite (fun _ => Safe.throw_msg [_, _, _, _] (by decide)) (fun _ => ?_)
    exact (lhsBase_safe sigs st hst b h.1.1).bind fun r hr => partWrite1_safe r.1 r.2.1 r.2.2 _ _ v _ hr
  | .ipart b s0 w up, h => by
    simp only [wfE, Bool.and_eq_true] at h
    unfold mkWrites
    refine (constNat_safe w).bind0 fun w' => (evalSelf_safe sigs st hst s0 h.1.2).bind0 fun k => ?_
    refine (lhsBase_safe sigs st hst b h.1.1).bind fun r hr => ?_
    refine Safe.ite (fun _ => partWrite1_safe r.1 r.2.1 r.2.2 _ _ v _ hr) (fun _ => ?_)
    exact Safe.ite (fun _ => Safe.throw_msg [_, _, _, _, _] (by decide)) (fun _ => partWrite1_safe r.1 r.2.1 r.2.2 _ _ v _ hr)
  | .cat es, h => by
    unfold mkWrites
    exact (mkWritesCat_safe sigs st hst v es h).bind fun r hr => Safe.pure hr
  | .id n, h => nomatch h
  | .num _ _, _ | .rep _ _, _ | .un _ _, _ | .bin _ _ _, _ | .cond _ _ _, _ => notLhs_safe
theorem mkWritesCat_safe (sigs : Array Sig) (st : State) (hst : sigs.size ≤ st.size) (v : Nat) :
    ∀ (es : List Expr), wfEL sigs.size es = true →
      Safe (fun r : List Write × Nat => WritesOk sigs.size r.1) (mkWritesCat sigs st v es)
  | [], _ => Safe.pure WritesOk.nil
  | e :: es, h => by
    simp only [wfEL, Bool.and_eq_true] at h
    unfold mkWritesCat
    refine (mkWritesCat_safe sigs st hst v es h.2).bind fun r hr => (selfW_safe sigs e h.1).bind0 fun we => ?_
    exact (mkWrites_safe sigs st hst _ e h.1).bind fun ws' hws' => Safe.pure (hws'.append hr)
end

theorem forIn_safe {α β : Type} {P : β → Prop} (f : α → β → R (ForInStep β)) :
    ∀ (l : List α) (b : β), P b → (∀ a b, a ∈ l → P b → Safe (fun r => P (stepVal r)) (f a b)) →
      Safe P (forIn l b f)
  | [], b, hb, _ => Safe.pure hb
  | a :: l, b, hb, hf => by
    rw [List.forIn_cons]
    refine (hf a b (List.mem_cons_self ..) hb).bind fun r hr => ?_
    cases r with
    | done b' => exact Safe.pure hr
    | yield b' => exact forIn_safe f l b' hr fun a b ha hb => hf a b (List.mem_cons_of_mem _ ha) hb

theorem wfEL_mem {n : Nat} : ∀ {es : List Expr} {e : Expr}, wfEL n es = true → e ∈ es → wfE n e = true
  | x :: xs, e, hw, h => by
    simp only [wfEL, Bool.and_eq_true] at hw
    rcases List.mem_cons.mp h with rfl | h'
    · exact hw.1
    · exact wfEL_mem hw.2 h'

theorem matchLabels_safe (sigs : Array Sig) (st : State) (hst : sigs.size ≤ st.size) (W v : Nat) :
    ∀ (ls : List Expr), wfEL sigs.size ls = true → Safe0 (matchLabels sigs st W v ls)
  | [], _ => Safe.pure0
  | l :: ls, h => by
    simp only [wfEL, Bool.and_eq_true] at h
    unfold matchLabels
    refine (evalC_safe sigs st hst l h.1 W).bind0 fun x => ?_
    exact Safe.ite (fun _ => Safe.pure0) (fun _ => matchLabels_safe sigs st hst W v ls h.2)

theorem caseW_safe (sigs : Array Sig) : ∀ (items : List (List Expr × Stmt)) (w : Nat),
    wfItems sigs.size items = true → Safe0 (caseW sigs w items)
  | [], w, _ => Safe.pure0
  | (ls, b) :: rest, w, h => by
    simp only [wfItems, Bool.and_eq_true] at h
    unfold caseW
    refine Safe.bind0 ?_ fun r => caseW_safe sigs rest _ h.2
    refine forIn_safe (P := fun _ => True) _ ls _ trivial fun a b ha _ => ?_
    exact (selfW_safe sigs a (wfEL_mem h.1.1 ha)).bind0 fun _ => Safe.pure0

/-- a block state over `n` signals: its local state has storage for all of them and its blocking and
    pending non-blocking writes address only them -/
structure XOk (n : Nat) (x : XSt) : Prop where
  loc : n ≤ x.loc.size
  bw : WritesOk n x.bw.toList
  nba : WritesOk n x.nba.toList

mutual
theorem exec_safe (sigs : Array Sig) : ∀ (s : Stmt) (x : XSt), wfS sigs.size s = true → XOk sigs.size x →
    Safe (XOk sigs.size) (exec sigs x s)
  | .null, x, _, hx => Safe.pure hx
  | .assign blocking lhs rhs, x, h, hx => by
    simp only [wfS, Bool.and_eq_true] at h
    unfold exec
    refine (selfW_safe sigs lhs h.1).bind0 fun lw => (evalAssign_safe sigs x.loc hx.loc lw rhs h.2).bind0 fun v => ?_
    refine (mkWrites_safe sigs x.loc hx.loc v lhs h.1).bind fun ws hws => Safe.ite (fun _ => ?_) (fun _ => ?_)
    · refine (applyWritesL_safe sigs sigs.size ws hws x.loc hx.loc).bind fun loc hloc => ?_
      exact Safe.pure ⟨hloc, by simpa using hx.bw.append hws, hx.nba⟩
    · exact Safe.pure ⟨hx.loc, hx.bw, by simpa using hx.nba.append hws⟩
  | .ite c t e, x, h, hx => by
    simp only [wfS, Bool.and_eq_true] at h
    unfold exec
    refine (evalSelf_safe sigs x.loc hx.loc c h.1.1).bind0 fun cv => ?_
    exact Safe.ite (fun _ => exec_safe sigs t x h.1.2 hx) (fun _ => exec_safe sigs e x h.2 hx)
  | .block _ _ ss, x, h, hx => execL_safe sigs ss x h hx
  | .case e items dflt, x, h, hx => by
    simp only [wfS, Bool.and_eq_true] at h
    unfold exec
    refine (selfW_safe sigs e h.1.1).bind0 fun w0 => (caseW_safe sigs items w0 h.1.2).bind0 fun W => ?_
    refine (evalC_safe sigs x.loc hx.loc e h.1.1 W).bind0 fun v => ?_
    refine (execCase_safe sigs items x W v h.1.2 hx).bind fun r hr => ?_
    cases r with
    | some x' => exact Safe.pure hr
    | none => exact exec_safe sigs dflt x h.2 hx
  | .for _ _ _ _, _, h, _ => nomatch h
theorem execL_safe (sigs : Array Sig) : ∀ (ss : List Stmt) (x : XSt), wfSL sigs.size ss = true → XOk sigs.size x →
    Safe (XOk sigs.size) (execL sigs x ss)
  | [], x, _, hx => Safe.pure hx
  | s :: ss, x, h, hx => by
    simp only [wfSL, Bool.and_eq_true] at h
    unfold execL
    exact (exec_safe sigs s x h.1 hx).bind fun x' hx' => execL_safe sigs ss x' h.2 hx'
theorem execCase_safe (sigs : Array Sig) : ∀ (items : List (List Expr × Stmt)) (x : XSt) (W v : Nat),
    wfItems sigs.size items = true → XOk sigs.size x →
    Safe (fun r : Option XSt => match r with | some x' => XOk sigs.size x' | none => True) (execCase sigs x W v items)
  | [], x, _, _, _, _ => Safe.pure trivial
  | (ls, b) :: rest, x, W, v, h, hx => by
    simp only [wfItems, Bool.and_eq_true] at h
    unfold execCase
    refine (matchLabels_safe sigs x.loc hx.loc W v ls h.1.1).bind0 fun m => ?_
    refine Safe.ite (fun _ => ?_) (fun _ => execCase_safe sigs rest x W v h.2 hx)
    exact (exec_safe sigs b x h.1.2 hx).bind fun x' hx' => Safe.pure hx'
end

theorem arr_forIn_safe {α β : Type} {P : β → Prop} (f : α → β → R (ForInStep β)) (arr : Array α) (b : β)
    (hb : P b) (hf : ∀ a b, a ∈ arr.toList → P b → Safe (fun r => P (stepVal r)) (f a b)) :
    Safe P (forIn arr b f) := by
  rw [← Array.forIn_toList]
  exact forIn_safe f arr.toList b hb hf

theorem wordsChanged_safe (sigs : Array Sig) (n : Nat) (old new : State) (ho : n ≤ old.size) (hn : n ≤ new.size)
    (ws : Array Write) (hws : WritesOk n ws.toList) : Safe0 (wordsChanged sigs old new ws) := by
  unfold wordsChanged
  rw [← Array.foldlM_toList]
  refine foldlM_safe (P := fun _ => True) _ _ false trivial fun acc w hw _ => ?_
  refine Safe.ite (fun _ => Safe.pure0) (fun _ => ?_)
  have := hws w hw
  exact (rdWord_safe old sigs _ _ (by omega)).bind0 fun _ => (rdWord_safe new sigs _ _ (by omega)).bind0 fun _ =>
    Safe.pure0

theorem Design.resolved_parts {d : Design} (h : d.Resolved = true) :
    (∀ a, a ∈ d.assigns.toList → wfE d.sigs.size a.1 = true ∧ wfE d.sigs.size a.2 = true) ∧
    (∀ s, s ∈ d.combs.toList → wfS d.sigs.size s = true) ∧
    (∀ p, p ∈ d.procs.toList → wfS d.sigs.size p.body = true) ∧
    (∀ s, s ∈ d.inits.toList → wfS d.sigs.size s = true) := by
  unfold Design.Resolved at h
  simp only [Bool.and_eq_true, List.all_eq_true] at h
  exact ⟨h.1.1.1, h.1.1.2, h.1.2, h.2⟩

theorem xok_init {n : Nat} {st : State} (h : n ≤ st.size) : XOk n { loc := st } :=
  ⟨h, WritesOk.nil, WritesOk.nil⟩

theorem execCommit_safe (sigs : Array Sig) (body : Stmt) (hb : wfS sigs.size body = true) (st : State)
    (hst : sigs.size ≤ st.size) {β : Type} {P : β → Prop} {k : XSt → State → R β}
    (hk : ∀ x st', XOk sigs.size x → sigs.size ≤ st'.size → Safe P (k x st')) :
    Safe P (do let x ← exec sigs { loc := st } body; let st' ← applyWrites sigs x.loc x.nba; k x st') :=
  (exec_safe sigs body _ hb (xok_init hst)).bind fun x hx =>
    (applyWrites_safe sigs sigs.size x.nba hx.nba x.loc hx.loc).bind fun st' hst' => hk x st' hx hst'

theorem settlePass_safe (d : Design) (hd : d.Resolved = true) (st : State) (hst : d.sigs.size ≤ st.size) :
    Safe (fun r : State × Bool => d.sigs.size ≤ r.1.size) (settlePass d st) := by
  obtain ⟨hA, hC, _, _⟩ := Design.resolved_parts hd
  unfold settlePass
  refine Safe.bind (Q := fun s : State × Bool => d.sigs.size ≤ s.1.size) ?_ fun s hs => ?_
  · refine arr_forIn_safe _ _ _ hst fun a s ha hs => ?_
    have hw := hA _ ha
    refine (selfW_safe d.sigs a.1 hw.1).bind0 fun lw => (evalAssign_safe d.sigs s.1 hs lw a.2 hw.2).bind0 fun v => ?_
    refine (mkWrites_safe d.sigs s.1 hs v a.1 hw.1).bind fun ws hws => ?_
    have hws' : WritesOk d.sigs.size ws.toArray.toList := hws
    refine (applyWrites_safe d.sigs d.sigs.size ws.toArray hws' s.1 hs).bind fun st' hst' => ?_
    refine (wordsChanged_safe d.sigs d.sigs.size s.1 st' hs hst' ws.toArray hws').bind0 fun ch => ?_
    split <;> exact Safe.pure hst'
  · refine Safe.bind (Q := fun s : State × Bool => d.sigs.size ≤ s.1.size) ?_ fun s hs => Safe.pure hs
    refine arr_forIn_safe _ _ _ hs fun body s hb hs => ?_
    refine execCommit_safe d.sigs body (hC _ hb) s.1 hs fun x st' hx hst' => ?_
    refine (wordsChanged_safe d.sigs d.sigs.size s.1 st' hs hst' _ (hx.bw.push hx.nba)).bind0 fun ch => ?_
    split <;> exact Safe.pure hst'

theorem settleLoop_safe (d : Design) (hd : d.Resolved = true) : ∀ (fuel : Nat) (st : State), d.sigs.size ≤ st.size →
    Safe (fun r : State => d.sigs.size ≤ r.size) (settleLoop d fuel st)
  | 0, _, _ => Safe.throw_lit (by decide)
  | fuel + 1, st, hst => by
    unfold settleLoop
    refine (settlePass_safe d hd st hst).bind fun r hr => ?_
    exact Safe.ite (fun _ => settleLoop_safe d hd fuel r.1 hr) (fun _ => Safe.pure hr)

theorem settle_safe (d : Design) (hd : d.Resolved = true) (st : State) (hst : d.sigs.size ≤ st.size) :
    Safe (fun r : State => d.sigs.size ≤ r.size) (settle d st) :=
  settleLoop_safe d hd _ st hst

theorem init_safe (d : Design) (hd : d.Resolved = true) :
    Safe (fun r : State => d.sigs.size ≤ r.size) d.init := by
  obtain ⟨_, _, _, hI⟩ := Design.resolved_parts hd
  have h0 : d.sigs.size ≤ (zeroState d).size := by simp [zeroState]
  unfold Design.init
  refine Safe.bind (Q := fun s : State => d.sigs.size ≤ s.size) ?_ fun s hs => settle_safe d hd s hs
  refine arr_forIn_safe _ _ _ h0 fun body s hb hs => ?_
  exact execCommit_safe d.sigs body (hI _ hb) s hs fun x st' _ hst' => Safe.pure hst'

theorem setInputs_size (d : Design) : ∀ (inputs : List (Nat × Nat)) (st st1 : State), d.sigs.size ≤ st.size →
    d.setInputs st inputs = .ok st1 → d.sigs.size ≤ st1.size := by
  intro inputs
  unfold Design.setInputs
  induction inputs with
  | nil => intro st st1 hst h; cases h; exact hst
  | cons p ps ih =>
    intro st st1 hst h
    rw [List.foldlM_cons] at h
    obtain ⟨st2, h2, h3⟩ := bind_ok h
    refine ih st2 st1 ?_ h3
    obtain ⟨s, hs, h2⟩ := bind_ok h2
    have hi : p.1 < d.sigs.size := by
      unfold getSig at hs
      split at hs
      · next heq => exact (Array.getElem?_eq_some_iff.mp heq).1
      · cases hs
    split at h2
    · cases h2
    · split at h2
      · cases h2
      · split at h2
        · cases h2
        · exact (applyWrite_safe d.sigs st d.sigs.size hst ⟨p.1, 0, 0, s.width, p.2⟩ hi).2 st2 h2

/-- `x >>= f` where only `x` may fail with a message of its own: the shape of `cycle` and `poke`, whose
    first step `setInputs` quotes signal names -/
theorem Safe.bind_or {α β : Type} {Q : α → Prop} {P : β → Prop} {x : R α} {f : α → R β}
    (hx : ∀ a, x = .ok a → Q a) (hf : ∀ a, Q a → Safe P (f a)) :
    (∀ msg, (x >>= f) = .error msg → ElabClassError msg = false ∨ x = .error msg) ∧
    (∀ b, (x >>= f) = .ok b → P b) := by
  cases x with
  | error e => exact ⟨fun msg h => Or.inr (Except.error.inj h ▸ rfl), nofun⟩
  | ok a => exact ⟨fun msg h => Or.inl ((hf a (hx a rfl)).1 msg h), (hf a (hx a rfl)).2⟩

theorem cycle_safe (d : Design) (hd : d.Resolved = true) (clk : Nat) (st : State) (inputs : List (Nat × Nat))
    (hst : d.sigs.size ≤ st.size) :
    (∀ msg, d.cycle clk st inputs = .error msg →
      ElabClassError msg = false ∨ d.setInputs st inputs = .error msg) ∧
    (∀ st', d.cycle clk st inputs = .ok st' → d.sigs.size ≤ st'.size) := by
  obtain ⟨_, _, hP, _⟩ := Design.resolved_parts hd
  unfold Design.cycle
  refine Safe.bind_or (setInputs_size d inputs st · hst) fun st1 h1 => ?_
  refine (settle_safe d hd st1 h1).bind fun st hs => ?_
  refine Safe.bind (Q := fun s : Array Write × Array Write =>
      WritesOk d.sigs.size s.1.toList ∧ WritesOk d.sigs.size s.2.toList) ?_ fun s hs2 => ?_
  · refine arr_forIn_safe _ _ _ ⟨WritesOk.nil, WritesOk.nil⟩ fun p s hp hs2 => ?_
    refine Safe.ite (fun _ => ?_) (fun _ => Safe.pure hs2)
    refine (exec_safe d.sigs p.body _ (hP _ hp) (xok_init hs)).bind fun x hx => ?_
    exact Safe.pure ⟨hs2.1.push hx.bw, hs2.2.push hx.nba⟩
  · refine (applyWrites_safe d.sigs d.sigs.size s.1 hs2.1 st hs).bind fun st2 h2 => ?_
    exact (applyWrites_safe d.sigs d.sigs.size s.2 hs2.2 st2 h2).bind fun st3 h3 => settle_safe d hd st3 h3

theorem poke_safe (d : Design) (hd : d.Resolved = true) (st : State) (inputs : List (Nat × Nat))
    (hst : d.sigs.size ≤ st.size) :
    (∀ msg, d.poke st inputs = .error msg → ElabClassError msg = false ∨ d.setInputs st inputs = .error msg) ∧
    (∀ st', d.poke st inputs = .ok st' → d.sigs.size ≤ st'.size) :=
  Safe.bind_or (setInputs_size d inputs st · hst) fun st1 h1 => settle_safe d hd st1 h1

end BMV.Vlog
