/-
  BMV.Proofs.QuantumUnitary — unitarity (M · M† = I) for C14, over every lawful commutative semiring
  `R` with a conjugation `c : R → R` that is a semiring homomorphism.

  * `isUnitary_mmul`, `isUnitary_id`, `isUnitary_congr`  products / identity / entries on the range
  * `isUnitary_of_monomial`  one unit entry per row, in different columns (permutation, diagonal, phase)
  * `embed_unitary`  (ANY n, any arity): the embedding of a unitary gate on distinct declared qubits is
    unitary — the 2^n-term sum of (embed g · embed g†) is re-indexed to the 2^a-term sum of g · g†
    through `setb` (write the bits of a gate-local index into a basis index)
  * `isUnitary_Uref` (ANY n): the circuit's unitary is unitary
-/
import BMV.Proofs.QuantumAlgebra

namespace BMV.Quantum
open MulOps Ops

/-- `c` is a semiring homomorphism (complex conjugation in the intended reading) -/
structure ConjHom {R : Type} [Ops R] (c : R → R) : Prop where
  map_mul : ∀ a b, c (mul a b) = mul (c a) (c b)
  map_add : ∀ a b, c (add a b) = add (c a) (c b)
  map_one : c one = one
  map_zero : c zero = zero

/-- conjugate transpose -/
def dagger {R : Type} (c : R → R) (M : Mat R) : Mat R := fun i j => c (M j i)

/-- `M · M† = I` on the `N × N` range (the property's `M*M^dagger ~= I`) -/
def IsUnitary {R : Type} [Ops R] (N : Nat) (c : R → R) (M : Mat R) : Prop :=
  EqOn N (mmul N M (dagger c M)) idMat

section general
variable {R : Type} [Ops R] [Lawful R] {c : R → R}

omit [Lawful R] in
theorem conj_sumN (hc : ConjHom c) (f : Nat → R) (N : Nat) :
    c (sumN f N) = sumN (fun k => c (f k)) N := by
  induction N with
  | zero => exact hc.map_zero
  | succ N ih => simp only [sumN, hc.map_add, ih]

theorem dagger_mmul (hc : ConjHom c) (N : Nat) (A B : Mat R) :
    dagger c (mmul N A B) = mmul N (dagger c B) (dagger c A) := by
  funext i j
  simp only [dagger, mmul, conj_sumN hc]
  exact sumN_congr N (fun k _ => by rw [hc.map_mul, Lawful.mul_comm])

omit [Ops R] [Lawful R] in
theorem dagger_congr (N : Nat) {A B : Mat R} (h : EqOn N A B) : EqOn N (dagger c A) (dagger c B) :=
  fun i j hi hj => by simp only [dagger, h j i hj hi]

omit [Lawful R] in
theorem isUnitary_congr (N : Nat) {A B : Mat R} (h : EqOn N A B) (hB : IsUnitary N c B) :
    IsUnitary N c A :=
  (mmul_congr N h (dagger_congr N h)).trans hB

theorem isUnitary_id (hc : ConjHom c) (N : Nat) : IsUnitary N c (idMat : Mat R) := by
  refine (mmul_id_left N _).trans ?_
  intro i j _ _
  simp only [dagger, idMat]
  by_cases h : i = j
  · rw [if_pos h.symm, if_pos h, hc.map_one]
  · rw [if_neg (fun e => h e.symm), if_neg h, hc.map_zero]

theorem isUnitary_mmul (hc : ConjHom c) (N : Nat) {A B : Mat R} (hA : IsUnitary N c A)
    (hB : IsUnitary N c B) : IsUnitary N c (mmul N A B) := by
  unfold IsUnitary at *
  rw [dagger_mmul hc, mmul_assoc, ← mmul_assoc N B]
  refine (mmul_congr N (EqOn.refl N A) ((mmul_congr N hB (EqOn.refl N _)).trans (mmul_id_left N _))).trans hA

/-- A matrix with one non-zero entry per row, in pairwise different columns `σ i`, each of unit
    modulus, is unitary: the sum for entry `(i, j)` of `M · M†` has the single term `k = σ i`. -/
theorem isUnitary_of_monomial (hc : ConjHom c) (N : Nat) (M : Mat R) (σ : Nat → Nat)
    (hσ : ∀ i, i < N → σ i < N) (hinj : ∀ i, i < N → ∀ j, j < N → σ i = σ j → i = j)
    (hz : ∀ i k, i < N → k < N → k ≠ σ i → M i k = zero)
    (hd : ∀ i, i < N → mul (M i (σ i)) (c (M i (σ i))) = one) : IsUnitary N c M := by
  intro i j hi hj
  simp only [mmul, dagger]
  rw [sumN_single N (σ i) (hσ i hi) (fun k hk hne => by rw [hz i k hi hk hne, Lawful.zero_mul])]
  by_cases hij : i = j
  · subst hij; rw [hd i hi, idMat, if_pos rfl]
  · rw [hz j (σ i) hj (hσ i hi) (fun e => hij (hinj i hi j hj e)), hc.map_zero, mul_zero', idMat,
      if_neg hij]

theorem agree_refl (n : Nat) (A : List Nat) (i : Nat) : agreeOut n A i i = true := by
  rw [agreeOut_iff]; intro a _; exact Or.inr rfl

theorem agree_symm (n : Nat) (A : List Nat) (i j : Nat) (h : agreeOut n A i j = true) :
    agreeOut n A j i = true := by
  rw [agreeOut_iff] at *
  intro a ha; rcases h a ha with h1 | h1
  · exact Or.inl h1
  · exact Or.inr h1.symm

theorem agree_trans (n : Nat) (A : List Nat) (i j k : Nat) (h1 : agreeOut n A i j = true)
    (h2 : agreeOut n A j k = true) : agreeOut n A i k = true := by
  rw [agreeOut_iff] at *
  intro a ha
  rcases h1 a ha with e1 | e1
  · exact Or.inl e1
  · rcases h2 a ha with e2 | e2
    · exact Or.inl e2
    · exact Or.inr (e1.trans e2)

theorem eq_of_agree_of_locIdx (n : Nat) (A : List Nat) (x y : Nat) (hx : x < 2 ^ n) (hy : y < 2 ^ n)
    (hag : agreeOut n A x y = true) (hl : locIdx n A x = locIdx n A y) : x = y := by
  refine eq_of_qbit_eq hx hy fun a ha => ?_
  rcases (agreeOut_iff n A x y).mp hag a ha with h | h
  · exact locIdx_inj n A x y hl a h
  · exact h

theorem eq_setb_of_agree (n : Nat) (A : List Nat) (i k : Nat) (hi : i < 2 ^ n) (hk : k < 2 ^ n)
    (hlt : ∀ x ∈ A, x < n) (hnd : A.Nodup) (hag : agreeOut n A i k = true) :
    k = setb n A (locIdx n A k) i := by
  apply eq_of_agree_of_locIdx n A k _ hk (setb_lt n A _ i hi hlt)
  · exact agree_trans n A k i _ (agree_symm n A i k hag) (agree_setb n A _ i hlt)
  · rw [locIdx_setb n A _ i hlt hnd, Nat.mod_eq_of_lt (locIdx_lt n k A)]

theorem sum_reindex (n : Nat) (A : List Nat) (i : Nat) (hi : i < 2 ^ n) (hlt : ∀ x ∈ A, x < n)
    (hnd : A.Nodup) (h : Nat → R) :
    sumN (fun k => if agreeOut n A i k = true then h (locIdx n A k) else zero) (2 ^ n)
      = sumN h (2 ^ A.length) := by
  have e1 : sumN h (2 ^ A.length)
      = sumN (fun b => sumN (fun k => if k = setb n A b i then h b else zero) (2 ^ n)) (2 ^ A.length) := by
    apply sumN_congr
    intro b _
    rw [sumN_single (2 ^ n) (setb n A b i) (setb_lt n A b i hi hlt) (fun k _ hne => by rw [if_neg hne])]
    rw [if_pos rfl]
  rw [e1, sumN_comm]
  apply sumN_congr
  intro k hk
  by_cases hag : agreeOut n A i k = true
  · rw [if_pos hag]
    have hkeq := eq_setb_of_agree n A i k hi hk hlt hnd hag
    rw [sumN_single (2 ^ A.length) (locIdx n A k) (locIdx_lt n k A)]
    · rw [if_pos hkeq]
    · intro b hb hne
      rw [if_neg]
      intro e
      apply hne
      have := congrArg (locIdx n A) e
      rw [locIdx_setb n A b i hlt hnd, Nat.mod_eq_of_lt hb] at this
      exact this.symm
  · rw [if_neg hag]
    rw [sumN_congr (2 ^ A.length) (g := fun _ => zero) (fun b _ => by
      rw [if_neg]
      intro e
      apply hag
      rw [e]
      exact agree_setb n A b i hlt)]
    exact (sumN_zero _).symm

theorem embed_unitary (hc : ConjHom c) (n : Nat) (g : Gate R) (hlt : ∀ x ∈ g.args, x < n)
    (hnd : g.args.Nodup) (hu : IsUnitary (2 ^ g.args.length) c g.m) :
    IsUnitary (2 ^ n) c (embed n g) := by
  intro i j hi hj
  simp only [mmul, dagger]
  by_cases hag : agreeOut n g.args i j = true
  · -- same block: re-index to the gate's own sum
    have hT : ∀ k, k < 2 ^ n → mul (embed n g i k) (c (embed n g j k))
        = if agreeOut n g.args i k = true then
            (fun b => mul (g.m (locIdx n g.args i) b) (c (g.m (locIdx n g.args j) b))) (locIdx n g.args k)
          else zero := by
      intro k _
      simp only [embed]
      by_cases h1 : agreeOut n g.args i k = true
      · have h2 : agreeOut n g.args j k = true := agree_trans n _ j i k (agree_symm n _ i j hag) h1
        rw [if_pos h1, if_pos h2, if_pos h1]
      · rw [if_neg h1, if_neg h1, Lawful.zero_mul]
    rw [sumN_congr _ hT, sum_reindex n g.args i hi hlt hnd
      (fun b => mul (g.m (locIdx n g.args i) b) (c (g.m (locIdx n g.args j) b)))]
    have := hu (locIdx n g.args i) (locIdx n g.args j) (locIdx_lt n i _) (locIdx_lt n j _)
    simp only [mmul, dagger] at this
    rw [this]
    simp only [idMat]
    by_cases hij : i = j
    · subst hij; rw [if_pos rfl, if_pos rfl]
    · rw [if_neg hij, if_neg]
      intro hl
      exact hij (eq_of_agree_of_locIdx n g.args i j hi hj hag hl)
  · -- different blocks: every term vanishes
    have hij : i ≠ j := by
      intro e; subst e; exact hag (agree_refl n _ i)
    simp only [idMat, if_neg hij]
    rw [sumN_congr (2 ^ n) (g := fun _ => zero) (fun k _ => by
      simp only [embed]
      by_cases h1 : agreeOut n g.args i k = true
      · have h2 : ¬ agreeOut n g.args j k = true := fun h2 =>
          hag (agree_trans n _ i k j h1 (agree_symm n _ j k h2))
        rw [if_neg h2, hc.map_zero, mul_zero']
      · rw [if_neg h1, Lawful.zero_mul])]
    exact sumN_zero _

theorem prodMats_unitary (hc : ConjHom c) (N : Nat) (ms : List (Mat R))
    (h : ∀ m ∈ ms, IsUnitary N c m) : IsUnitary N c (prodMats N ms) := by
  unfold prodMats
  have gen : ∀ (ms : List (Mat R)) (P : Mat R), (∀ m ∈ ms, IsUnitary N c m) → IsUnitary N c P →
      IsUnitary N c (ms.foldl (fun P m => mmul N m P) P) := by
    intro ms
    induction ms with
    | nil => intro P _ hP; exact hP
    | cons m ms ih =>
      intro P hm hP
      exact ih _ (fun m' h' => hm m' (by simp [h'])) (isUnitary_mmul hc N (hm m (by simp)) hP)
  exact gen ms idMat h (isUnitary_id hc N)

omit [Lawful R] in
theorem Uref_eq_prodMats (n : Nat) (gs : List (Gate R)) :
    Uref n gs = prodMats (2 ^ n) (gs.map (embed n)) := by
  rw [Uref, prodMats, List.foldl_map]

theorem isUnitary_Uref (hc : ConjHom c) (n : Nat) (gs : List (Gate R))
    (hg : ∀ g ∈ gs, (∀ x ∈ g.args, x < n) ∧ g.args.Nodup ∧ IsUnitary (2 ^ g.args.length) c g.m) :
    IsUnitary (2 ^ n) c (Uref n gs) := by
  rw [Uref_eq_prodMats]
  refine prodMats_unitary hc _ _ fun m hm => ?_
  obtain ⟨g, hgm, rfl⟩ := List.mem_map.mp hm
  exact embed_unitary hc n g (hg g hgm).1 (hg g hgm).2.1 (hg g hgm).2.2

/-- a unitary gate of the supported shapes on declared qubits -/
def UnitaryGate (n : Nat) (c : R → R) (g : Gate R) : Prop :=
  OkGate n g ∧ IsUnitary (2 ^ g.args.length) c g.m

end general
end BMV.Quantum
