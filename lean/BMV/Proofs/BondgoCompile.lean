/-
  What the compiler functions of BMV/Bondgo.lean and the source semantics compute, without any machine
  run: the allocator, length / busy-register / written-register facts of `compileE`, `compileC`,
  `compileEs`, `compileStores`, `compileX`; what an accepted statement compiled to, constructor by
  constructor; `compileS` / `exec` as the restriction of `compileX` / `execX` to `plain` statements; how
  a statement can end (`execX_status`); where variables live (`locs`, `allLocs`) and the soundness of the
  cell release discipline of `blockLocs` (`placement_sound`).  The simulation: BMV/Proofs/Bondgo.lean.
-/
import BMV.Bondgo
namespace BMV.Bondgo

variable {env : Nat → Nat → Nat} {w : Nat} {ls : List Loc} {fuel : Nat}

/-! ### allocator -/

theorem le_maxList {x : Nat} {l : List Nat} (h : x ∈ l) : x ≤ maxList l := by
  induction l with
  | nil => cases h
  | cons y ys ih =>
    simp only [maxList]
    rcases List.mem_cons.mp h with h | h
    · subst h; exact Nat.le_max_left _ _
    · exact Nat.le_trans (ih h) (Nat.le_max_right _ _)

theorem fresh_not_mem (busy : List Nat) : fresh busy ∉ busy := by
  unfold fresh
  split
  · rename_i i hi
    have := List.find?_some hi
    simpa using this
  · intro h
    have := le_maxList h
    omega

/-! ### expressions: registers and length of the code; the source side -/

theorem lt_of_getElem? {α : Type} {l : List α} {i : Nat} {a : α} (h : l[i]? = some a) : i < l.length := by
  rcases Nat.lt_or_ge i l.length with h' | h'
  · exact h'
  · rw [List.getElem?_eq_none h'] at h; cases h

/-- What `compileE` guarantees about the code `c`, the result register `r` and the busy list `busy'` it
    returns from `busy`: the length is `exprLen`; `r` was free and is busy afterwards; what was busy stays
    busy; the code writes only registers that were free; the variables read are declared; and from a
    duplicate-free list the result is duplicate free and grew by `r` only (temporaries are given back). -/
structure ExprCode (ls : List Loc) (e : Expr) (busy : List Nat) (c : List Instr) (r : Nat) (busy' : List Nat) :
    Prop where
  len : c.length = exprLen e
  free : r ∉ busy
  mem : r ∈ busy'
  mono : ∀ x ∈ busy, x ∈ busy'
  writes : ∀ i ∈ c, ∀ x ∈ i.writes, x ∉ busy
  vars : ∀ x ∈ exprVars e, x ∈ List.range ls.length
  alloc : busy.Nodup → busy'.Nodup ∧ ∀ x, x ∈ busy' ↔ x = r ∨ x ∈ busy

theorem ExprCode.leaf {ls : List Loc} {e : Expr} {busy : List Nat} {i : Instr} (hw : i.writes = [fresh busy])
    (hl : exprLen e = 1) (hv : ∀ x ∈ exprVars e, x ∈ List.range ls.length) :
    ExprCode ls e busy [i] (fresh busy) (fresh busy :: busy) :=
  ⟨hl.symm, fresh_not_mem _, List.mem_cons_self, fun _ hx => List.mem_cons_of_mem _ hx,
   fun j hj x hx => by
    rw [List.mem_singleton.mp hj, hw, List.mem_singleton] at hx
    exact hx ▸ fresh_not_mem _,
   hv, fun hnd => ⟨List.nodup_cons.mpr ⟨fresh_not_mem _, hnd⟩, fun _ => List.mem_cons⟩⟩

theorem ExprCode.bin {ls : List Loc} {e a b : Expr} {busy busy1 busy2 : List Nat} {ca cb : List Instr} {ra rb : Nat}
    {i : Instr} (A : ExprCode ls a busy ca ra busy1) (B : ExprCode ls b busy1 cb rb busy2) (hw : i.writes = [ra])
    (hl : exprLen e = exprLen a + exprLen b + 1) (hv : exprVars e = exprVars a ++ exprVars b) :
    ExprCode ls e busy (ca ++ cb ++ [i]) ra (busy2.erase rb) := by
  have hne : ra ≠ rb := fun e => B.free (e ▸ A.mem)
  refine ⟨by simp [A.len, B.len, hl, Nat.add_assoc], A.free, (List.mem_erase_of_ne hne).mpr (B.mono _ A.mem), fun x hx => ?_,
    fun j hj x hx => ?_, fun x hx => ?_, fun hnd => ?_⟩
  · exact (List.mem_erase_of_ne fun (e : x = rb) => B.free (e ▸ A.mono x hx)).mpr (B.mono x (A.mono x hx))
  · simp only [List.mem_append, List.mem_singleton] at hj
    rcases hj with (hj | hj) | hj
    · exact A.writes j hj x hx
    · exact fun hb => B.writes j hj x hx (A.mono x hb)
    · rw [hj, hw, List.mem_singleton] at hx
      exact hx ▸ A.free
  · rw [hv] at hx
    exact (List.mem_append.mp hx).elim (A.vars x) (B.vars x)
  · obtain ⟨a2, a3⟩ := A.alloc hnd
    obtain ⟨b2, b3⟩ := B.alloc a2
    refine ⟨b2.erase _, fun x => ?_⟩
    rw [b2.mem_erase_iff, b3, a3]
    exact ⟨fun ⟨hn, h⟩ => h.resolve_left hn, fun h => ⟨fun e => B.free (e ▸ (a3 x).mpr h), .inr h⟩⟩

theorem compileE_spec (ls : List Loc) (e : Expr) :
    ∀ (busy : List Nat) (c : List Instr) (r : Nat) (busy' : List Nat),
      compileE ls e busy = some (c, r, busy') → ExprCode ls e busy c r busy' := by
  induction e with
  | lit n | ioread n =>
    intro busy c r busy' h
    simp only [compileE, Option.some.injEq, Prod.mk.injEq] at h
    obtain ⟨rfl, rfl, rfl⟩ := h
    exact .leaf rfl rfl fun _ hx => nomatch hx
  | var v =>
    intro busy c r busy' h
    have hv : ∀ l, ls[v]? = some l → ∀ x ∈ exprVars (.var v), x ∈ List.range ls.length := fun l hl x hx => by
      rw [List.mem_singleton.mp hx]; exact List.mem_range.mpr (lt_of_getElem? hl)
    simp only [compileE] at h
    split at h <;> simp only [Option.some.injEq, Prod.mk.injEq, reduceCtorEq] at h
    all_goals
      rename_i hl
      obtain ⟨rfl, rfl, rfl⟩ := h
      exact .leaf rfl rfl (hv _ hl)
  | add a b iha ihb | mul a b iha ihb =>
    intro busy c r busy' h
    simp only [compileE] at h
    split at h
    · cases h
    · rename_i ca ra busy1 ha
      split at h
      · cases h
      · rename_i cb rb busy2 hb
        simp only [Option.some.injEq, Prod.mk.injEq] at h
        obtain ⟨rfl, rfl, rfl⟩ := h
        exact .bin (iha _ _ _ _ ha) (ihb _ _ _ _ hb) rfl rfl rfl

/-- both binary operators compile the same way, up to the instruction `op` -/
theorem compileE_bin {ls : List Loc} {e a b : Expr} (op : Nat → Nat → Instr)
    (he : ∀ busy, compileE ls e busy = match compileE ls a busy with
      | none => none
      | some (ca, ra, busy1) =>
        match compileE ls b busy1 with
        | none => none
        | some (cb, rb, busy2) => some (ca ++ cb ++ [op ra rb], ra, busy2.erase rb))
    {busy : List Nat} {c : List Instr} {r : Nat} {busy' : List Nat} (h : compileE ls e busy = some (c, r, busy')) :
    ∃ ca ra busy1 cb rb busy2, compileE ls a busy = some (ca, ra, busy1) ∧ compileE ls b busy1 = some (cb, rb, busy2) ∧
      c = ca ++ cb ++ [op ra rb] ∧ r = ra := by
  rw [he] at h
  split at h
  · cases h
  · rename_i ca ra busy1 ha
    split at h
    · cases h
    · rename_i cb rb busy2 hb
      simp only [Option.some.injEq, Prod.mk.injEq] at h
      exact ⟨ca, ra, busy1, cb, rb, busy2, ha, hb, h.1.symm, h.2.1.symm⟩

theorem compileE_mono (ls : List Loc) (e : Expr) (busy : List Nat) (c : List Instr) (r : Nat) (busy' : List Nat)
    (h : compileE ls e busy = some (c, r, busy')) : r ∉ busy ∧ r ∈ busy' ∧ ∀ x ∈ busy, x ∈ busy' :=
  have s := compileE_spec ls e busy c r busy' h
  ⟨s.free, s.mem, s.mono⟩

theorem compileE_len (ls : List Loc) (e : Expr) (busy : List Nat) (c : List Instr) (r : Nat) (busy' : List Nat)
    (h : compileE ls e busy = some (c, r, busy')) : c.length = exprLen e :=
  (compileE_spec ls e busy c r busy' h).len

theorem evalE_frame (env : Nat → Nat → Nat) (w : Nat) (e : Expr) :
    ∀ s, (evalE env w e s).2.vars = s.vars ∧ (evalE env w e s).2.outs = s.outs := by
  induction e with
  | add a b iha ihb | mul a b iha ihb =>
    intro s
    simp only [evalE]
    exact ⟨by rw [(ihb _).1, (iha _).1], by rw [(ihb _).2, (iha _).2]⟩
  | _ => intro s; exact ⟨rfl, rfl⟩

/-! ### comparisons -/

theorem compileC_eq {ls : List Loc} {base : Nat} {a b : Expr} {busy : List Nat} {cc : List Instr} {rc : Nat}
    {busy1 : List Nat} (h : compileC ls base (.eq a b) busy = some (cc, rc, busy1)) :
    ∃ ca ra busyA cb rb busyB, compileE ls a busy = some (ca, ra, busyA) ∧ compileE ls b busyA = some (cb, rb, busyB) ∧
      cc = ca ++ cb ++ [.je ra rb (base + ca.length + cb.length + 3), .rset (fresh busyB) 0,
        .j (base + ca.length + cb.length + 4), .rset (fresh busyB) 1] ∧
      rc = fresh busyB ∧ busy1 = ((fresh busyB :: busyB).erase ra).erase rb := by
  simp only [compileC] at h
  split at h
  · cases h
  · rename_i ca ra busyA ha
    split at h
    · cases h
    · rename_i cb rb busyB hcb
      simp only [Option.some.injEq, Prod.mk.injEq] at h
      exact ⟨ca, ra, busyA, cb, rb, busyB, ha, hcb, h.1.symm, h.2.1.symm, h.2.2.symm⟩

theorem compileC_mono (ls : List Loc) (base : Nat) (cnd : Cond) (busy : List Nat) (cc : List Instr) (rc : Nat)
    (busy1 : List Nat) (h : compileC ls base cnd busy = some (cc, rc, busy1)) :
    ∀ x ∈ busy, x ∈ busy1.erase rc := by
  cases cnd with
  | eq a b =>
  obtain ⟨ca, ra, busyA, cb, rb, busyB, ha, hcb, _, rfl, rfl⟩ := compileC_eq h
  obtain ⟨ma1, _, ma3⟩ := compileE_mono ls a _ _ _ _ ha
  obtain ⟨mb1, _, mb3⟩ := compileE_mono ls b _ _ _ _ hcb
  intro x hx
  have hxa : x ≠ ra := fun e => ma1 (e ▸ hx)
  have hxb : x ≠ rb := fun e => mb1 (e ▸ ma3 x hx)
  have hxc : x ≠ fresh busyB := fun e => fresh_not_mem busyB (e ▸ mb3 x (ma3 x hx))
  exact (List.mem_erase_of_ne hxc).mpr ((List.mem_erase_of_ne hxb).mpr
    ((List.mem_erase_of_ne hxa).mpr (List.mem_cons_of_mem _ (mb3 x (ma3 x hx)))))

theorem compileC_len (ls : List Loc) (base : Nat) (cnd : Cond) (busy : List Nat) (cc : List Instr) (rc : Nat)
    (busy1 : List Nat) (h : compileC ls base cnd busy = some (cc, rc, busy1)) : cc.length = condLen cnd := by
  cases cnd with
  | eq a b =>
  obtain ⟨ca, ra, busyA, cb, rb, busyB, ha, hcb, rfl, _, _⟩ := compileC_eq h
  simp [condLen, compileE_len ls a _ _ _ _ ha, compileE_len ls b _ _ _ _ hcb]; omega

/-! ### tuple assignment: right-hand sides and stores -/

theorem compileEs_facts (ls : List Loc) (es : List Expr) :
    ∀ busy c rs busy', compileEs ls es busy = some (c, rs, busy') →
      c.length = (es.map exprLen).sum ∧ rs.length = es.length ∧ (∀ r ∈ rs, r ∉ busy) ∧
      (∀ r ∈ rs, r ∈ busy') ∧ (∀ x ∈ busy, x ∈ busy') := by
  induction es with
  | nil =>
    intro busy c rs busy' h
    simp only [compileEs, Option.some.injEq, Prod.mk.injEq] at h
    obtain ⟨e1, e2, e3⟩ := h; subst e1; subst e2; subst e3
    simp
  | cons e es ih =>
    intro busy c rs busy' h
    simp only [compileEs] at h
    split at h
    · cases h
    · rename_i c1 r busy1 he
      split at h
      · cases h
      · rename_i cs rs' busy2 hes
        simp only [Option.some.injEq, Prod.mk.injEq] at h
        obtain ⟨e1, e2, e3⟩ := h; subst e1; subst e2; subst e3
        obtain ⟨q1, q2, q3⟩ := compileE_mono ls e _ _ _ _ he
        obtain ⟨i1, i2, i3, i4, i5⟩ := ih _ _ _ _ hes
        refine ⟨by simp [i1, compileE_len ls e _ _ _ _ he], by simp [i2], ?_, ?_, fun x hx => i5 x (q3 x hx)⟩
        · intro r' hr'
          rcases List.mem_cons.mp hr' with h' | h'
          · subst h'; exact q1
          · exact fun hb => i3 r' h' (q3 r' hb)
        · intro r' hr'
          rcases List.mem_cons.mp hr' with h' | h'
          · subst h'; exact i5 _ q2
          · exact i4 r' h'

def Loc.store : Loc → Nat → Instr
  | .reg g, r => .cpy g r
  | .mem m, r => .r2m r m

theorem compileStores_cons {ls : List Loc} {x : Nat} {xs : List Nat} {r : Nat} {rs busy : List Nat} {c : List Instr}
    {busy' : List Nat} (h : compileStores ls (x :: xs) (r :: rs) busy = some (c, busy')) :
    ∃ l c', ls[x]? = some l ∧ compileStores ls xs rs (busy.erase r) = some (c', busy') ∧ c = l.store r :: c' := by
  simp only [compileStores] at h
  split at h
  · split at h
    · rename_i hl _ _ _ hs
      simp only [Option.some.injEq, Prod.mk.injEq] at h
      exact ⟨_, _, hl, h.2 ▸ hs, h.1.symm⟩
    · cases h
  · split at h
    · rename_i hl _ _ _ hs
      simp only [Option.some.injEq, Prod.mk.injEq] at h
      exact ⟨_, _, hl, h.2 ▸ hs, h.1.symm⟩
    · cases h
  · cases h

theorem compileStores_facts (ls : List Loc) (xs : List Nat) :
    ∀ rs busy c busy', compileStores ls xs rs busy = some (c, busy') →
      c.length = xs.length ∧ rs.length = xs.length ∧ (∀ x ∈ busy, x ∉ rs → x ∈ busy') := by
  induction xs with
  | nil =>
    intro rs busy c busy' h
    cases rs with
    | nil =>
      simp only [compileStores, Option.some.injEq, Prod.mk.injEq] at h
      obtain ⟨rfl, rfl⟩ := h
      simp
    | cons r rs => simp [compileStores] at h
  | cons x xs ih =>
    intro rs busy c busy' h
    cases rs with
    | nil => simp [compileStores] at h
    | cons r rs =>
      obtain ⟨l, c', _, hs, rfl⟩ := compileStores_cons h
      obtain ⟨i1, i2, i3⟩ := ih _ _ _ _ hs
      refine ⟨by simp [i1], by simp [i2], fun y hy hn => ?_⟩
      have h1 : y ≠ r := fun e => hn (e ▸ List.mem_cons_self)
      exact i3 y ((List.mem_erase_of_ne h1).mpr hy) (fun h' => hn (List.mem_cons_of_mem _ h'))

theorem evalEs_frame (env : Nat → Nat → Nat) (w : Nat) (es : List Expr) :
    ∀ s, (evalEs env w es s).2.vars = s.vars ∧ (evalEs env w es s).2.outs = s.outs ∧
      (evalEs env w es s).1.length = es.length := by
  induction es with
  | nil => intro s; simp [evalEs]
  | cons e es ih =>
    intro s
    simp only [evalEs]
    obtain ⟨f1, f2⟩ := evalE_frame env w e s
    obtain ⟨i1, i2, i3⟩ := ih (evalE env w e s).2
    exact ⟨by rw [i1, f1], by rw [i2, f2], by simp [i3]⟩

theorem sum_map_succ (ps : List (Nat × Expr)) :
    (ps.map fun p => exprLen p.2 + 1).sum = ((ps.map (·.2)).map exprLen).sum + (ps.map (·.1)).length := by
  induction ps with
  | nil => rfl
  | cons p ps ih => simp [ih]; omega

theorem assignAll_agree : ∀ (xs vs : List Nat) (f g : Nat → Nat), xs.length = vs.length →
    (∀ y, y ∉ xs → f y = g y) → ∀ y, assignAll f xs vs y = assignAll g xs vs y := by
  intro xs
  induction xs with
  | nil => intro vs f g _ h y; cases vs <;> simpa [assignAll] using h y (by simp)
  | cons x xs ih =>
    intro vs f g hl h y
    cases vs with
    | nil => simp at hl
    | cons v vs =>
      simp only [assignAll]
      refine ih vs _ _ (by simpa using hl) (fun z hz => ?_) y
      by_cases hzx : z = x
      · subst hzx; simp [upd]
      · simp only [upd, hzx, if_false]
        exact h z (by simp [hzx, hz])

/-! ### what an accepted statement compiled to, constructor by constructor -/

theorem compileS_assign {x : Nat} {e : Expr} {base : Nat} {busy busy' : List Nat} {c : List Instr}
    (h : compileS ls (.assign x e) base busy = some (c, busy')) :
    ∃ l ce r busy1, ls[x]? = some l ∧ compileE ls e busy = some (ce, r, busy1) ∧ c = ce ++ [l.store r] ∧
      busy' = busy1.erase r := by
  simp only [compileS] at h
  split at h
  · rename_i g ce r busy1 hl he
    simp only [Option.some.injEq, Prod.mk.injEq] at h
    exact ⟨_, ce, r, busy1, hl, he, h.1.symm, h.2.symm⟩
  · rename_i m ce r busy1 hl he
    simp only [Option.some.injEq, Prod.mk.injEq] at h
    exact ⟨_, ce, r, busy1, hl, he, h.1.symm, h.2.symm⟩
  · cases h

theorem compileS_iowrite {ls : List Loc} {o : Nat} {e : Expr} {base : Nat} {busy busy' : List Nat} {c : List Instr}
    (h : compileS ls (.iowrite o e) base busy = some (c, busy')) :
    ∃ ce r, compileE ls e busy = some (ce, r, busy') ∧ c = ce ++ [.r2o r o] := by
  simp only [compileS] at h
  split at h
  · rename_i ce r busy1 he
    simp only [Option.some.injEq, Prod.mk.injEq] at h
    exact ⟨ce, r, h.2 ▸ he, h.1.symm⟩
  · cases h

section inversion
variable {ls : List Loc} {lb lc base : Nat} {busy busy' : List Nat} {c : List Instr}

theorem compileX_seq {a b : Stmt} (h : compileX ls lb lc (.seq a b) base busy = some (c, busy')) :
    ∃ c1 busy1 c2, compileX ls lb lc a base busy = some (c1, busy1) ∧
      compileX ls lb lc b (base + c1.length) busy1 = some (c2, busy') ∧ c = c1 ++ c2 := by
  simp only [compileX] at h
  split at h
  · cases h
  · rename_i c1 busy1 h1
    split at h
    · cases h
    · rename_i c2 busy2 h2
      simp only [Option.some.injEq, Prod.mk.injEq] at h
      exact ⟨c1, busy1, c2, h1, h.2 ▸ h2, h.1.symm⟩

theorem compileX_ifThen {cnd : Cond} {t : Stmt} (h : compileX ls lb lc (.ifThen cnd t) base busy = some (c, busy')) :
    ∃ cc rc busy1 ct, compileC ls base cnd busy = some (cc, rc, busy1) ∧
      compileX ls lb lc t (base + cc.length + 1) (busy1.erase rc) = some (ct, busy') ∧
      c = cc ++ [.jz rc (base + cc.length + 1 + ct.length)] ++ ct := by
  simp only [compileX] at h
  split at h
  · cases h
  · rename_i cc rc busy1 hc
    split at h
    · cases h
    · rename_i ct busy2 ht
      simp only [Option.some.injEq, Prod.mk.injEq] at h
      exact ⟨cc, rc, busy1, ct, hc, h.2 ▸ ht, h.1.symm⟩

theorem compileX_ifElse {cnd : Cond} {t e : Stmt} (h : compileX ls lb lc (.ifElse cnd t e) base busy = some (c, busy')) :
    ∃ cc rc busy1 ct busy2 ce, compileC ls base cnd busy = some (cc, rc, busy1) ∧
      compileX ls lb lc t (base + cc.length + 1) (busy1.erase rc) = some (ct, busy2) ∧
      compileX ls lb lc e (base + cc.length + 1 + ct.length + 1) busy2 = some (ce, busy') ∧
      c = cc ++ [.jz rc (base + cc.length + 1 + ct.length + 1)] ++ ct
            ++ [.j (base + cc.length + 1 + ct.length + 1 + ce.length)] ++ ce := by
  simp only [compileX] at h
  split at h
  · cases h
  · rename_i cc rc busy1 hc
    split at h
    · cases h
    · rename_i ct busy2 ht
      split at h
      · cases h
      · rename_i ce busy3 he
        simp only [Option.some.injEq, Prod.mk.injEq] at h
        exact ⟨cc, rc, busy1, ct, busy2, ce, hc, ht, h.2 ▸ he, h.1.symm⟩

theorem compileX_loop_none {body : Stmt} (h : compileX ls lb lc (.loop none body) base busy = some (c, busy')) :
    ∃ cb, compileX ls (base + codeLen ls body + 1) (base + codeLen ls body) body base busy = some (cb, busy') ∧
      c = cb ++ [.j base] := by
  simp only [compileX] at h
  split at h
  · cases h
  · rename_i cb busy1 hb
    simp only [Option.some.injEq, Prod.mk.injEq] at h
    exact ⟨cb, h.2 ▸ hb, h.1.symm⟩

theorem compileX_loopP {cnd : Cond} {body q : Stmt} (h : compileX ls lb lc (.loopP cnd body q) base busy = some (c, busy')) :
    ∃ cc rc busy1 cb busy2 cp, compileC ls base cnd busy = some (cc, rc, busy1) ∧
      compileX ls (base + cc.length + 1 + codeLen ls body + codeLen ls q + 1) (base + cc.length + 1 + codeLen ls body)
        body (base + cc.length + 1) (busy1.erase rc) = some (cb, busy2) ∧
      compileX ls lb lc q (base + cc.length + 1 + cb.length) busy2 = some (cp, busy') ∧
      c = cc ++ [.jz rc (base + cc.length + 1 + cb.length + cp.length + 1)] ++ cb ++ cp ++ [.j base] := by
  simp only [compileX] at h
  split at h
  · cases h
  · rename_i cc rc busy1 hc
    split at h
    · cases h
    · rename_i cb busy2 hb
      split at h
      · cases h
      · rename_i cp busy3 hp
        simp only [Option.some.injEq, Prod.mk.injEq] at h
        exact ⟨cc, rc, busy1, cb, busy2, cp, hc, hb, h.2 ▸ hp, h.1.symm⟩

theorem compileX_switch {tag : Expr} {cs : Stmt} (h : compileX ls lb lc (.switch tag cs) base busy = some (c, busy')) :
    ∃ ce rt busy1 cb, compileE ls tag busy = some (ce, rt, busy1) ∧
      compileX ls (base + ce.length + swHeadLen cs + codeLen ls cs) lc cs (base + ce.length + swHeadLen cs) busy1
        = some (cb, busy') ∧
      c = ce ++ swHeader ls rt (fresh busy1) (base + ce.length + swHeadLen cs) cs ++ cb := by
  simp only [compileX] at h
  split at h
  · cases h
  · rename_i ce rt busy1 he
    split at h
    · cases h
    · rename_i cb busy2 hb
      simp only [Option.some.injEq, Prod.mk.injEq] at h
      exact ⟨ce, rt, busy1, cb, he, h.2 ▸ hb, h.1.symm⟩

theorem compileX_swCase {v : Nat} {b rest : Stmt} (h : compileX ls lb lc (.swCase v b rest) base busy = some (c, busy')) :
    ∃ cb busy1 cr, compileX ls lb lc b base busy = some (cb, busy1) ∧
      compileX ls lb lc rest (base + cb.length + 1) busy1 = some (cr, busy') ∧ c = cb ++ [.j lb] ++ cr := by
  simp only [compileX] at h
  split at h
  · cases h
  · rename_i cb busy1 h1
    split at h
    · cases h
    · rename_i cr busy2 h2
      simp only [Option.some.injEq, Prod.mk.injEq] at h
      exact ⟨cb, busy1, cr, h1, h.2 ▸ h2, h.1.symm⟩

theorem compileX_swDefault {b : Stmt} (h : compileX ls lb lc (.swDefault b) base busy = some (c, busy')) :
    ∃ cb, compileX ls lb lc b base busy = some (cb, busy') ∧ c = cb ++ [.j lb] := by
  simp only [compileX] at h
  split at h
  · cases h
  · rename_i cb busy1 h1
    simp only [Option.some.injEq, Prod.mk.injEq] at h
    exact ⟨cb, h.2 ▸ h1, h.1.symm⟩

/-- both `=` and `:=` : the right-hand sides, then the stores -/
theorem compileX_tuple {ps : List (Nat × Expr)}
    (h : compileX ls lb lc (.tassign ps) base busy = some (c, busy') ∨
         compileX ls lb lc (.define ps) base busy = some (c, busy')) :
    ∃ ce rs busy1 cs, compileEs ls (ps.map (·.2)) busy = some (ce, rs, busy1) ∧
      compileStores ls (ps.map (·.1)) rs busy1 = some (cs, busy') ∧ c = ce ++ cs := by
  rcases h with h | h
  · simp only [compileX] at h
    split at h
    · cases h
    · rename_i ce rs busy1 he
      split at h
      · cases h
      · rename_i cs busy2 hs
        simp only [Option.some.injEq, Prod.mk.injEq] at h
        exact ⟨ce, rs, busy1, cs, he, h.2 ▸ hs, h.1.symm⟩
  · simp only [compileX] at h
    split at h
    · cases h
    · rename_i ce rs busy1 he
      split at h
      · cases h
      · rename_i cs busy2 hs
        split at h
        · simp only [Option.some.injEq, Prod.mk.injEq] at h
          exact ⟨ce, rs, busy1, cs, he, h.2 ▸ hs, h.1.symm⟩
        · cases h

end inversion

/-- a conditional loop is a three-clause loop with an empty post clause: same code, same labels -/
theorem compileX_loop_some (ls : List Loc) (lb lc : Nat) (cnd : Cond) (body : Stmt) (base : Nat) (busy : List Nat) :
    compileX ls lb lc (.loop (some cnd) body) base busy = compileX ls lb lc (.loopP cnd body .skip) base busy := by
  simp [compileX, codeLen]

theorem execX_loop_some (env : Nat → Nat → Nat) (w : Nat) (cnd : Cond) (body : Stmt) :
    ∀ fuel s, execX env w fuel (.loop (some cnd) body) s = execX env w fuel (.loopP cnd body .skip) s := by
  intro fuel
  induction fuel with
  | zero => intro s; simp [execX]
  | succ f ih =>
    intro s
    simp only [execX, ih]
    generalize evalC env w cnd s = r
    obtain ⟨bv, s1⟩ := r
    cases bv
    · rfl
    · simp only
      generalize execX env w f body s1 = r2
      obtain ⟨s2, e⟩ := r2
      cases e <;> rfl

/-! ### length of the code, busy registers -/

theorem swHeader_length (ls : List Loc) (rt r : Nat) :
    ∀ cs start, (swHeader ls rt r start cs).length = swHeadLen cs := by
  intro cs
  induction cs with
  | swCase v b rest _ ih => intro start; simp [swHeader, swHeadLen, ih]; omega
  | _ => intro start; simp [swHeader, swHeadLen]

/-- the labels are computed from `codeLen`, and `codeLen` is the length of the code -/
theorem compileX_length (ls : List Loc) (st : Stmt) :
    ∀ lb lc base busy c busy', compileX ls lb lc st base busy = some (c, busy') → c.length = codeLen ls st := by
  induction st with
  | seq a b iha ihb =>
    intro lb lc base busy c busy' h
    obtain ⟨c1, busy1, c2, h1, h2, rfl⟩ := compileX_seq h
    simp [codeLen, iha _ _ _ _ _ _ h1, ihb _ _ _ _ _ _ h2]
  | ifThen cnd t iht =>
    intro lb lc base busy c busy' h
    obtain ⟨cc, rc, busy1, ct, hc, ht, rfl⟩ := compileX_ifThen h
    simp [codeLen, compileC_len ls _ _ _ _ _ _ hc, iht _ _ _ _ _ _ ht]; omega
  | ifElse cnd t e iht ihe =>
    intro lb lc base busy c busy' h
    obtain ⟨cc, rc, busy1, ct, busy2, ce, hc, ht, he, rfl⟩ := compileX_ifElse h
    simp [codeLen, compileC_len ls _ _ _ _ _ _ hc, iht _ _ _ _ _ _ ht, ihe _ _ _ _ _ _ he]; omega
  | loop oc body ihb =>
    intro lb lc base busy c busy' h
    cases oc with
    | none =>
      obtain ⟨cb, hb, rfl⟩ := compileX_loop_none h
      simp [codeLen, ihb _ _ _ _ _ _ hb]
    | some cnd =>
      rw [compileX_loop_some] at h
      obtain ⟨cc, rc, busy1, cb, busy2, cp, hc, hb, hq, rfl⟩ := compileX_loopP h
      simp only [compileX, Option.some.injEq, Prod.mk.injEq] at hq
      simp [codeLen, ← hq.1, compileC_len ls _ _ _ _ _ _ hc, ihb _ _ _ _ _ _ hb]; omega
  | loopP cnd body q ihb ihq =>
    intro lb lc base busy c busy' h
    obtain ⟨cc, rc, busy1, cb, busy2, cp, hc, hb, hq, rfl⟩ := compileX_loopP h
    simp [codeLen, compileC_len ls _ _ _ _ _ _ hc, ihb _ _ _ _ _ _ hb, ihq _ _ _ _ _ _ hq]; omega
  | switch tag cs ih =>
    intro lb lc base busy c busy' h
    obtain ⟨ce, rt, busy1, cb, he, hb, rfl⟩ := compileX_switch h
    simp [codeLen, compileE_len ls _ _ _ _ _ he, swHeader_length, ih _ _ _ _ _ _ hb]; omega
  | swCase v b r ihb ihr =>
    intro lb lc base busy c busy' h
    obtain ⟨cb, busy1, cr, h1, h2, rfl⟩ := compileX_swCase h
    simp [codeLen, ihb _ _ _ _ _ _ h1, ihr _ _ _ _ _ _ h2]; omega
  | swDefault b ihb =>
    intro lb lc base busy c busy' h
    obtain ⟨cb, h1, rfl⟩ := compileX_swDefault h
    simp [codeLen, ihb _ _ _ _ _ _ h1]
  | tassign ps =>
    intro lb lc base busy c busy' h
    obtain ⟨ce, rs, busy1, cs, he, hs, rfl⟩ := compileX_tuple (.inl h)
    simp [codeLen, (compileEs_facts ls _ _ _ _ _ he).1, (compileStores_facts ls _ _ _ _ _ hs).1, sum_map_succ]
  | define ps =>
    intro lb lc base busy c busy' h
    obtain ⟨ce, rs, busy1, cs, he, hs, rfl⟩ := compileX_tuple (.inr h)
    simp [codeLen, (compileEs_facts ls _ _ _ _ _ he).1, (compileStores_facts ls _ _ _ _ _ hs).1, sum_map_succ]
  | assign x e =>
    intro lb lc base busy c busy' h
    obtain ⟨l, ce, r, busy1, _, he, rfl, _⟩ := compileS_assign (ls := ls) h
    simp [codeLen, compileE_len ls e _ _ _ _ he]
  | iowrite o e =>
    intro lb lc base busy c busy' h
    obtain ⟨ce, r, he, rfl⟩ := compileS_iowrite (ls := ls) h
    simp [codeLen, compileE_len ls e _ _ _ _ he]
  | inc x | dec x =>
    intro lb lc base busy c busy' h
    simp only [compileX, compileS] at h
    split at h
    · rename_i g hl; simp only [Option.some.injEq, Prod.mk.injEq] at h; rw [← h.1]; simp [codeLen, hl]
    · rename_i m hl; simp only [Option.some.injEq, Prod.mk.injEq] at h; rw [← h.1]; simp [codeLen, hl]
    · cases h
  | decl x =>
    intro lb lc base busy c busy' h
    simp only [compileX, compileS] at h
    split at h
    · simp only [Option.some.injEq, Prod.mk.injEq] at h; rw [← h.1]; rfl
    · cases h
  | skip | brk | cont =>
    intro lb lc base busy c busy' h
    simp only [compileX, Option.some.injEq, Prod.mk.injEq] at h
    rw [← h.1]; rfl

/-- registers that are busy before a statement is compiled are still busy afterwards (temporaries
    are taken from the free ones and given back) -/
theorem compileX_mono (ls : List Loc) (st : Stmt) :
    ∀ (lb lc base : Nat) (busy : List Nat) (c : List Instr) (busy' : List Nat),
      compileX ls lb lc st base busy = some (c, busy') → ∀ x ∈ busy, x ∈ busy' := by
  induction st with
  | seq a b iha ihb =>
    intro lb lc base busy c busy' h x hx
    obtain ⟨c1, busy1, c2, h1, h2, _⟩ := compileX_seq h
    exact ihb _ _ _ _ _ _ h2 x (iha _ _ _ _ _ _ h1 x hx)
  | ifThen cnd t iht =>
    intro lb lc base busy c busy' h x hx
    obtain ⟨cc, rc, busy1, ct, hc, ht, _⟩ := compileX_ifThen h
    exact iht _ _ _ _ _ _ ht x (compileC_mono ls _ _ _ _ _ _ hc x hx)
  | ifElse cnd t e iht ihe =>
    intro lb lc base busy c busy' h x hx
    obtain ⟨cc, rc, busy1, ct, busy2, ce, hc, ht, he, _⟩ := compileX_ifElse h
    exact ihe _ _ _ _ _ _ he x (iht _ _ _ _ _ _ ht x (compileC_mono ls _ _ _ _ _ _ hc x hx))
  | loop oc body ihb =>
    intro lb lc base busy c busy' h x hx
    cases oc with
    | none =>
      obtain ⟨cb, hb, _⟩ := compileX_loop_none h
      exact ihb _ _ _ _ _ _ hb x hx
    | some cnd =>
      rw [compileX_loop_some] at h
      obtain ⟨cc, rc, busy1, cb, busy2, cp, hc, hb, hq, _⟩ := compileX_loopP h
      simp only [compileX, Option.some.injEq, Prod.mk.injEq] at hq
      exact hq.2 ▸ ihb _ _ _ _ _ _ hb x (compileC_mono ls _ _ _ _ _ _ hc x hx)
  | loopP cnd body q ihb ihq =>
    intro lb lc base busy c busy' h x hx
    obtain ⟨cc, rc, busy1, cb, busy2, cp, hc, hb, hq, _⟩ := compileX_loopP h
    exact ihq _ _ _ _ _ _ hq x (ihb _ _ _ _ _ _ hb x (compileC_mono ls _ _ _ _ _ _ hc x hx))
  | switch tag cs ih =>
    intro lb lc base busy c busy' h x hx
    obtain ⟨ce, rt, busy1, cb, he, hb, _⟩ := compileX_switch h
    exact ih _ _ _ _ _ _ hb x ((compileE_mono ls _ _ _ _ _ he).2.2 x hx)
  | swCase v b r ihb ihr =>
    intro lb lc base busy c busy' h x hx
    obtain ⟨cb, busy1, cr, h1, h2, _⟩ := compileX_swCase h
    exact ihr _ _ _ _ _ _ h2 x (ihb _ _ _ _ _ _ h1 x hx)
  | swDefault b ihb =>
    intro lb lc base busy c busy' h x hx
    obtain ⟨cb, h1, _⟩ := compileX_swDefault h
    exact ihb _ _ _ _ _ _ h1 x hx
  | tassign ps =>
    intro lb lc base busy c busy' h x hx
    obtain ⟨ce, rs, busy1, cs, he, hs, _⟩ := compileX_tuple (.inl h)
    obtain ⟨_, _, f3, _, f5⟩ := compileEs_facts ls _ _ _ _ _ he
    exact (compileStores_facts ls _ _ _ _ _ hs).2.2 x (f5 x hx) (fun hr => f3 x hr hx)
  | define ps =>
    intro lb lc base busy c busy' h x hx
    obtain ⟨ce, rs, busy1, cs, he, hs, _⟩ := compileX_tuple (.inr h)
    obtain ⟨_, _, f3, _, f5⟩ := compileEs_facts ls _ _ _ _ _ he
    exact (compileStores_facts ls _ _ _ _ _ hs).2.2 x (f5 x hx) (fun hr => f3 x hr hx)
  | skip | brk | cont =>
    intro lb lc base busy c busy' h x hx
    simp only [compileX, Option.some.injEq, Prod.mk.injEq] at h
    exact h.2 ▸ hx
  | assign v e =>
    intro lb lc base busy c busy' h x hx
    obtain ⟨l, ce, r, busy1, _, he, _, rfl⟩ := compileS_assign (ls := ls) h
    obtain ⟨q1, _, q3⟩ := compileE_mono ls e _ _ _ _ he
    exact (List.mem_erase_of_ne (fun (e' : x = r) => q1 (e' ▸ hx))).mpr (q3 x hx)
  | iowrite o e =>
    intro lb lc base busy c busy' h x hx
    obtain ⟨ce, r, he, _⟩ := compileS_iowrite (ls := ls) h
    exact (compileE_mono ls e _ _ _ _ he).2.2 x hx
  | inc v | dec v | decl v =>
    intro lb lc base busy c busy' h x hx
    simp only [compileX, compileS] at h
    split at h <;> (try (simp only [Option.some.injEq, Prod.mk.injEq] at h; exact h.2 ▸ hx)) <;> cases h

/-! ### the fragment without `break` / `continue` / post clauses: `compileS` and `exec` -/

theorem compileS_plain (ls : List Loc) (st : Stmt) :
    ∀ base busy r, compileS ls st base busy = some r → plain st = true := by
  induction st with
  | seq a b iha ihb =>
    intro base busy r h
    simp only [compileS] at h
    split at h
    · cases h
    · rename_i c1 busy1 h1
      split at h
      · cases h
      · rename_i c2 busy2 h2
        simp only [plain, iha _ _ _ h1, ihb _ _ _ h2, Bool.and_self]
  | ifThen cnd t iht =>
    intro base busy r h
    simp only [compileS] at h
    split at h
    · cases h
    · split at h
      · cases h
      · rename_i ht
        exact iht _ _ _ ht
  | ifElse cnd t e iht ihe =>
    intro base busy r h
    simp only [compileS] at h
    split at h
    · cases h
    · split at h
      · cases h
      · rename_i ht
        split at h
        · cases h
        · rename_i he
          simp only [plain, iht _ _ _ ht, ihe _ _ _ he, Bool.and_self]
  | loop oc body ihb =>
    intro base busy r h
    cases oc with
    | none =>
      simp only [compileS] at h
      split at h
      · cases h
      · rename_i hb
        exact ihb _ _ _ hb
    | some cnd =>
      simp only [compileS] at h
      split at h
      · cases h
      · split at h
        · cases h
        · rename_i hb
          exact ihb _ _ _ hb
  | _ => intro base busy r h; first | rfl | simp [compileS] at h

theorem compileX_plain (ls : List Loc) (st : Stmt) (hp : plain st = true) :
    ∀ lb lc base busy, compileX ls lb lc st base busy = compileS ls st base busy := by
  induction st with
  | seq a b iha ihb =>
    simp only [plain, Bool.and_eq_true] at hp
    intro lb lc base busy
    simp only [compileX, compileS, iha hp.1, ihb hp.2]
  | ifThen cnd t iht => intro lb lc base busy; simp only [compileX, compileS, iht hp]
  | ifElse cnd t e iht ihe =>
    simp only [plain, Bool.and_eq_true] at hp
    intro lb lc base busy
    simp only [compileX, compileS, iht hp.1, ihe hp.2]
  | loop oc body ihb => intro lb lc base busy; cases oc <;> simp only [compileX, compileS, ihb hp]
  | _ => intro lb lc base busy; first | rfl | simp [plain] at hp

theorem compileS_mono (ls : List Loc) (st : Stmt) (base : Nat) (busy : List Nat) (c : List Instr) (busy' : List Nat)
    (h : compileS ls st base busy = some (c, busy')) : ∀ x ∈ busy, x ∈ busy' :=
  compileX_mono ls st 0 0 base busy c busy' (by rw [compileX_plain ls st (compileS_plain ls st _ _ _ h)]; exact h)

theorem execX_plain_struct (env : Nat → Nat → Nat) (w fuel : Nat)
    (hloop : ∀ oc body, plain body = true → ∀ s, execX env w fuel (.loop oc body) s =
      ((exec env w fuel (.loop oc body) s).1, if (exec env w fuel (.loop oc body) s).2 then .ok else .timeout)) :
    ∀ st, plain st = true → ∀ s, execX env w fuel st s =
      ((exec env w fuel st s).1, if (exec env w fuel st s).2 then .ok else .timeout) := by
  intro st
  induction st with
  | seq a b iha ihb =>
    intro hp s
    simp only [plain, Bool.and_eq_true] at hp
    simp only [execX, exec, iha hp.1 s]
    generalize exec env w fuel a s = r
    obtain ⟨s1, f1⟩ := r
    cases f1
    · rfl
    · exact ihb hp.2 s1
  | ifThen cnd t iht =>
    intro hp s
    simp only [execX, exec]
    generalize evalC env w cnd s = r
    obtain ⟨bv, s1⟩ := r
    cases bv
    · rfl
    · exact iht hp s1
  | ifElse cnd t e iht ihe =>
    intro hp s
    simp only [plain, Bool.and_eq_true] at hp
    simp only [execX, exec]
    generalize evalC env w cnd s = r
    obtain ⟨bv, s1⟩ := r
    cases bv
    · exact ihe hp.2 s1
    · exact iht hp.1 s1
  | loop oc body _ => intro hp s; exact hloop oc body hp s
  | _ => intro hp s; first | (simp [plain] at hp; done) | simp [execX, exec]

theorem execX_plain (env : Nat → Nat → Nat) (w : Nat) : ∀ fuel st, plain st = true → ∀ s,
    execX env w fuel st s = ((exec env w fuel st s).1, if (exec env w fuel st s).2 then .ok else .timeout) := by
  intro fuel
  induction fuel with
  | zero => exact execX_plain_struct env w 0 fun oc body _ s => by simp [execX, exec]
  | succ f ih =>
    refine execX_plain_struct env w (f + 1) fun oc body hp s => ?_
    have hb := ih body hp
    have hl := ih (.loop oc body) hp
    cases oc with
    | none =>
      simp only [execX, exec, hb s]
      generalize exec env w f body s = r
      obtain ⟨s1, f1⟩ := r
      cases f1
      · rfl
      · exact hl s1
    | some cnd =>
      rcases hc : evalC env w cnd s with ⟨bv, s1⟩
      cases bv
      · simp [execX, exec, hc]
      · simp only [execX, exec, hc, hb s1]
        generalize exec env w f body s1 = r
        obtain ⟨s2, f2⟩ := r
        cases f2
        · rfl
        · exact hl s2

theorem compile_plain {p : Prog} {code : List Instr} (hc : compile p = some code) : plain p.body = true := by
  unfold compile at hc
  simp only at hc
  split at hc
  · rename_i hcs; exact compileS_plain _ _ _ _ _ hcs
  · cases hc

theorem compileXBody_plain {p : Prog} (hp : plain p.body = true) : compileXBody p = compile p := by
  simp only [compileXBody, compile, compileX_plain _ _ hp]

theorem goEvalX_plain (env : Nat → Nat → Nat) (w fuel : Nat) {p : Prog} (hp : plain p.body = true) :
    goEvalX env w fuel p = goEval env w fuel p := by
  simp only [goEvalX, goEval, execX_plain env w fuel p.body hp {}]
  cases (exec env w fuel p.body {}).2 <;> rfl

/-! ### `switch`: induction that reaches the clause bodies, the clause that runs -/

def ChainAll (P : Stmt → Prop) : Stmt → Prop
  | .swCase _ b rest => P b ∧ ChainAll P rest
  | .swDefault b => P b
  | _ => True

/-- What holds of a clause list (`R`) gives what holds of the clause a `switch` runs (`P`): `R` of a
    `case` clause list must give `P` of its body and `R` of the rest, `R` of `default` its body's `P`;
    without a matching clause `skip` runs. -/
theorem swSelect_of {R P : Stmt → Prop} (w v : Nat) (hskip : P .skip)
    (hcase : ∀ v' b rest, R (.swCase v' b rest) → P b ∧ R rest) (hdef : ∀ b, R (.swDefault b) → P b) :
    ∀ cs, R cs → P (swSelect w v cs) := by
  intro cs
  induction cs with
  | swCase v' b rest _ ih =>
    intro h
    simp only [swSelect]
    split
    · exact (hcase v' b rest h).1
    · exact ih (hcase v' b rest h).2
  | swDefault b => exact hdef b
  | _ => exact fun _ => hskip

theorem chainAll_select {P : Stmt → Prop} (w v : Nat) (hskip : P .skip) :
    ∀ cs, ChainAll P cs → P (swSelect w v cs) :=
  swSelect_of w v hskip (fun _ _ _ h => h) fun _ h => h

theorem wfS_select (ls : List Loc) (w v : Nat) (live : List Nat) :
    ∀ cs, wfS ls cs live = true → wfS ls (swSelect w v cs) live = true :=
  swSelect_of (R := fun st => wfS ls st live = true) (P := fun st => wfS ls st live = true) w v rfl
    (fun _ _ _ h => by simpa [wfS] using h) fun _ h => h

theorem noStrayC_select (w v : Nat) : ∀ cs, noStrayC cs = true → noStrayC (swSelect w v cs) = true :=
  swSelect_of (R := fun st => noStrayC st = true) (P := fun st => noStrayC st = true) w v rfl
    (fun _ _ _ h => by simpa [noStrayC] using h) fun _ h => h

/-- structural induction in which the case `switch tag cs` receives the induction hypothesis of every
    clause body of `cs` (the clause constructors themselves carry no hypothesis: nothing is ever
    claimed about a clause outside its switch) -/
theorem Stmt.chain_induct {motive : Stmt → Prop}
    (skip : motive .skip)
    (seq : ∀ s rest, motive s → motive rest → motive (.seq s rest))
    (assign : ∀ x e, motive (.assign x e))
    (inc : ∀ x, motive (.inc x))
    (dec : ∀ x, motive (.dec x))
    (iowrite : ∀ o e, motive (.iowrite o e))
    (ifThen : ∀ c t, motive t → motive (.ifThen c t))
    (ifElse : ∀ c t e, motive t → motive e → motive (.ifElse c t e))
    (loop : ∀ c body, motive body → motive (.loop c body))
    (decl : ∀ x, motive (.decl x))
    (brk : motive .brk)
    (cont : motive .cont)
    (loopP : ∀ c body post, motive body → motive post → motive (.loopP c body post))
    (tassign : ∀ ps, motive (.tassign ps))
    (define : ∀ ps, motive (.define ps))
    (switch : ∀ tag cs, ChainAll motive cs → motive (.switch tag cs))
    (swCase : ∀ v body rest, motive (.swCase v body rest))
    (swDefault : ∀ body, motive (.swDefault body)) : ∀ st, motive st := by
  have key : ∀ st, motive st ∧ ChainAll motive st := by
    intro st
    induction st with
    | skip => exact ⟨skip, trivial⟩
    | seq a b iha ihb => exact ⟨seq a b iha.1 ihb.1, trivial⟩
    | assign x e => exact ⟨assign x e, trivial⟩
    | inc x => exact ⟨inc x, trivial⟩
    | dec x => exact ⟨dec x, trivial⟩
    | iowrite o e => exact ⟨iowrite o e, trivial⟩
    | ifThen c t iht => exact ⟨ifThen c t iht.1, trivial⟩
    | ifElse c t e iht ihe => exact ⟨ifElse c t e iht.1 ihe.1, trivial⟩
    | loop c b ihb => exact ⟨loop c b ihb.1, trivial⟩
    | decl x => exact ⟨decl x, trivial⟩
    | brk => exact ⟨brk, trivial⟩
    | cont => exact ⟨cont, trivial⟩
    | loopP c b q ihb ihq => exact ⟨loopP c b q ihb.1 ihq.1, trivial⟩
    | tassign ps => exact ⟨tassign ps, trivial⟩
    | define ps => exact ⟨define ps, trivial⟩
    | switch tag cs ih => exact ⟨switch tag cs ih.2, trivial⟩
    | swCase v b r ihb ihr => exact ⟨swCase v b r, ihb.1, ihr.2⟩
    | swDefault b ihb => exact ⟨swDefault b, ihb.1⟩
  exact fun st => (key st).1

/-- offset (within the clause code) of the clause a `switch` on `v` runs; the length of the clause
    code when there is none -/
def swOffset (ls : List Loc) (w v : Nat) : Stmt → Nat
  | .swCase v' b rest => if v = v' % 2 ^ w then 0 else codeLen ls b + 1 + swOffset ls w v rest
  | _ => 0

def swHit (w v : Nat) : Stmt → Bool
  | .swCase v' _ rest => v = v' % 2 ^ w || swHit w v rest
  | .swDefault _ => true
  | _ => false

/-- where the clause that runs sits in the code of the clause list -/
theorem swChain_split (ls : List Loc) (w v : Nat) :
    ∀ (cs : Stmt) (lb lc base : Nat) (busy : List Nat) (cb : List Instr) (busy2 : List Nat),
      isChain cs = true → compileX ls lb lc cs base busy = some (cb, busy2) →
      ∃ (preB cbody postB : List Instr) (busyB busyB' : List Nat),
        cb = preB ++ cbody ++ postB ∧ preB.length = swOffset ls w v cs ∧
        compileX ls lb lc (swSelect w v cs) (base + preB.length) busyB = some (cbody, busyB') ∧
        (∀ x ∈ busy, x ∈ busyB) ∧
        (swHit w v cs = true → ∃ postB', postB = .j lb :: postB') ∧
        (swHit w v cs = false → cbody = [] ∧ postB = []) := by
  intro cs
  induction cs with
  | swCase v' b rest ihb ihr =>
    intro lb lc base busy cb busy2 hch h
    simp only [isChain] at hch
    obtain ⟨c1, busy1, cr, h1, h2, rfl⟩ := compileX_swCase h
    by_cases hv : v = v' % 2 ^ w
    · refine ⟨[], c1, [.j lb] ++ cr, busy, busy1, by simp, by simp [swOffset, hv], ?_, fun x hx => hx,
        fun _ => ⟨cr, by simp⟩, fun hh => by simp [swHit, hv] at hh⟩
      simpa [swSelect, hv] using h1
    · obtain ⟨preB, cbody, postB, busyB, busyB', p1, p2, p3, p4, p5, p6⟩ :=
        ihr lb lc (base + c1.length + 1) busy1 cr busy2 hch h2
      have hl := compileX_length ls b _ _ _ _ _ _ h1
      refine ⟨c1 ++ [.j lb] ++ preB, cbody, postB, busyB, busyB', by rw [p1]; simp [List.append_assoc], ?_, ?_,
        fun x hx => p4 x (compileX_mono ls b _ _ _ _ _ _ h1 x hx), ?_, ?_⟩
      · simp [swOffset, hv, p2, hl]; omega
      · have : base + (c1 ++ [Instr.j lb] ++ preB).length = base + c1.length + 1 + preB.length := by
          simp; omega
        rw [this]; simpa [swSelect, hv] using p3
      · intro hh; exact p5 (by simpa [swHit, hv] using hh)
      · intro hh; exact p6 (by simpa [swHit, hv] using hh)
  | swDefault b ihb =>
    intro lb lc base busy cb busy2 _ h
    obtain ⟨c1, h1, rfl⟩ := compileX_swDefault h
    exact ⟨[], c1, [.j lb], busy, busy2, by simp, by simp [swOffset], by simpa [swSelect] using h1,
      fun x hx => hx, fun _ => ⟨[], rfl⟩, fun hh => by simp [swHit] at hh⟩
  | skip =>
    intro lb lc base busy cb busy2 _ h
    simp only [compileX, Option.some.injEq, Prod.mk.injEq] at h
    obtain ⟨e1, e2⟩ := h; subst e1; subst e2
    exact ⟨[], [], [], busy, busy, by simp, by simp [swOffset], by simp [swSelect, compileX],
      fun x hx => hx, fun hh => by simp [swHit] at hh, fun _ => ⟨rfl, rfl⟩⟩
  | _ => intro lb lc base busy cb busy2 hch; simp [isChain] at hch

/-! ### how a statement can end -/

theorem compileXP_some {p : Prog} {code : List Instr} (h : compileXP p = some code) :
    compileXBody p = some code ∧ redeclProg p = false := by
  unfold compileXP at h
  cases hr : redeclProg p with
  | true => rw [hr] at h; simp at h
  | false => rw [hr] at h; exact ⟨by simpa using h, rfl⟩

/-- What it takes for "an accepted statement (`ok`) ends in a status `Q` allows": falling through and running
    out of fuel are allowed; `break` / `continue` only where `ok` admits them bare; `ok` passes to the parts
    of `seq`, `if` and to the post clause of a loop (whose body may end any way: the loop absorbs it); and a
    `switch` is fine once its clause bodies are. -/
structure EndsIn (env : Nat → Nat → Nat) (w : Nat) (Q : Status → Prop) (ok : Stmt → Bool) : Prop where
  fall : Q .ok
  timeout : Q .timeout
  brk : ok .brk = true → Q .brk
  cont : ok .cont = true → Q .cont
  skip : ok .skip = true
  seq : ∀ a b, ok (.seq a b) = true → ok a = true ∧ ok b = true
  ifThen : ∀ c t, ok (.ifThen c t) = true → ok t = true
  ifElse : ∀ c t e, ok (.ifElse c t e) = true → ok t = true ∧ ok e = true
  loop : ∀ oc b, ok (.loop oc b) = true
  loopP : ∀ c b q, ok (.loopP c b q) = ok q
  switch : ∀ fuel tag cs s, ok (.switch tag cs) = true →
    ChainAll (fun st => ∀ s, ok st = true → Q (execX env w fuel st s).2) cs → Q (execX env w fuel (.switch tag cs) s).2

section
variable {env : Nat → Nat → Nat} {w : Nat} {Q : Status → Prop} {ok : Stmt → Bool}

/-- a statement's status is among those its parts can produce (loops at this fuel given) -/
theorem EndsIn.struct (H : EndsIn env w Q ok) (fuel : Nat) (hloop : ∀ b s, Q (execX env w fuel (.loop none b) s).2)
    (hloopP : ∀ c b q s, ok q = true → Q (execX env w fuel (.loopP c b q) s).2) :
    ∀ st s, ok st = true → Q (execX env w fuel st s).2 := by
  intro st
  induction st using Stmt.chain_induct with
  | seq a b iha ihb =>
    intro s h
    have ha := iha s (H.seq a b h).1
    simp only [execX]
    generalize execX env w fuel a s = r at ha ⊢
    obtain ⟨s1, f1⟩ := r
    cases f1
    · exact ihb s1 (H.seq a b h).2
    all_goals exact ha
  | ifThen c t iht =>
    intro s h
    simp only [execX]
    generalize evalC env w c s = r
    obtain ⟨bv, s1⟩ := r
    cases bv
    · exact H.fall
    · exact iht s1 (H.ifThen c t h)
  | ifElse c t e iht ihe =>
    intro s h
    simp only [execX]
    generalize evalC env w c s = r
    obtain ⟨bv, s1⟩ := r
    cases bv
    · exact ihe s1 (H.ifElse c t e h).2
    · exact iht s1 (H.ifElse c t e h).1
  | brk => intro s h; simp only [execX]; exact H.brk h
  | cont => intro s h; simp only [execX]; exact H.cont h
  | loop oc b _ =>
    intro s _
    cases oc with
    | none => exact hloop b s
    | some c => rw [execX_loop_some]; exact hloopP c b .skip s H.skip
  | loopP c b q _ _ => intro s h; exact hloopP c b q s (H.loopP c b q ▸ h)
  | switch tag cs ih => intro s h; exact H.switch fuel tag cs s h ih
  | swCase _ _ _ => intro s _; simp only [execX]; exact H.timeout
  | swDefault _ => intro s _; simp only [execX]; exact H.timeout
  | _ => intro s _; simp only [execX]; exact H.fall

theorem EndsIn.all (H : EndsIn env w Q ok) : ∀ fuel st s, ok st = true → Q (execX env w fuel st s).2 := by
  intro fuel
  induction fuel with
  | zero =>
    exact H.struct 0 (fun _ _ => by simp only [execX]; exact H.timeout) fun _ _ _ _ _ => by simp only [execX]; exact H.timeout
  | succ f ih =>
    refine H.struct (f + 1) (fun b s => ?_) fun c b q s hq => ?_
    · -- the body may end any way: `break` ends the loop, the rest goes round again
      simp only [execX]
      generalize execX env w f b s = r
      obtain ⟨s1, f1⟩ := r
      cases f1
      · exact ih (.loop none b) s1 (H.loop none b)
      · exact H.fall
      · exact ih (.loop none b) s1 (H.loop none b)
      · exact H.timeout
    · simp only [execX]
      generalize evalC env w c s = r
      obtain ⟨bv, s1⟩ := r
      cases bv
      · exact H.fall
      · simp only
        generalize execX env w f b s1 = r2
        obtain ⟨s2, f2⟩ := r2
        -- after the body: the post clause decides, unless it falls through into the next round
        have post : ∀ s2 : Src, Q (match execX env w f q s2 with
              | (s3, Status.ok) => execX env w f (.loopP c b q) s3
              | r => r).2 := by
          intro s2
          have h1 := ih q s2 hq
          generalize execX env w f q s2 = r3 at h1 ⊢
          obtain ⟨s3, f3⟩ := r3
          cases f3
          · exact ih (.loopP c b q) s3 (by rw [H.loopP]; exact hq)
          all_goals exact h1
        cases f2
        · exact post s2
        · exact H.fall
        · exact post s2
        · exact H.timeout

end

/-- a `switch` turns its clause's `break` into falling through and passes the rest on -/
theorem execX_switch_status (env : Nat → Nat → Nat) (w fuel : Nat) (tag : Expr) (cs : Stmt) (s : Src)
    (hb : (execX env w fuel (swSelect w (evalE env w tag s).1 cs) (evalE env w tag s).2).2 ≠ .cont) :
    (execX env w fuel (.switch tag cs) s).2 = .ok ∨ (execX env w fuel (.switch tag cs) s).2 = .timeout := by
  simp only [execX]
  generalize execX env w fuel (swSelect w (evalE env w tag s).1 cs) (evalE env w tag s).2 = r at hb ⊢
  obtain ⟨s2, f2⟩ := r
  cases f2
  · exact .inl rfl
  · exact .inl rfl
  · exact absurd rfl hb
  · exact .inr rfl

/-- a statement without a stray `continue` never ends in one: `Q := (· ≠ .cont)`, `ok := noStrayC` -/
theorem execX_statusC (env : Nat → Nat → Nat) (w : Nat) :
    ∀ fuel st s, noStrayC st = true → (execX env w fuel st s).2 ≠ .cont :=
  EndsIn.all (Q := (· ≠ .cont)) (ok := noStrayC)
    { fall := nofun, timeout := nofun, brk := fun _ => nofun, cont := fun h => by simp [noStrayC] at h, skip := rfl
      seq := fun _ _ h => by simpa [noStrayC] using h, ifThen := fun _ _ h => h
      ifElse := fun _ _ _ h => by simpa [noStrayC] using h, loop := fun _ _ => rfl, loopP := fun _ _ _ => rfl
      switch := fun fuel tag cs s h ih => by
        have hb := chainAll_select w (evalE env w tag s).1 (fun s _ => by simp [execX]) cs ih (evalE env w tag s).2
          (noStrayC_select w _ cs h)
        rcases execX_switch_status env w fuel tag cs s hb with e | e <;> rw [e] <;> nofun }

/-- a statement without stray `break` / `continue` falls through or runs out of fuel:
    `Q e := e = .ok ∨ e = .timeout`, `ok := noStray`; inside a `switch` only `continue` is stray -/
theorem execX_status (env : Nat → Nat → Nat) (w : Nat) :
    ∀ fuel st s, noStray st = true → (execX env w fuel st s).2 = .ok ∨ (execX env w fuel st s).2 = .timeout :=
  EndsIn.all (Q := fun e => e = .ok ∨ e = .timeout) (ok := noStray)
    { fall := .inl rfl, timeout := .inr rfl, brk := fun h => by simp [noStray] at h
      cont := fun h => by simp [noStray] at h, skip := rfl, seq := fun _ _ h => by simpa [noStray] using h
      ifThen := fun _ _ h => h, ifElse := fun _ _ _ h => by simpa [noStray] using h, loop := fun _ _ => rfl
      loopP := fun _ _ _ => rfl
      switch := fun fuel tag cs s h _ => execX_switch_status env w fuel tag cs s
        (execX_statusC env w fuel _ _ (noStrayC_select w _ cs h)) }

/-! ### where variables live -/

/-- distinct variables live in distinct places -/
def LocsInj (ls : List Loc) : Prop := ∀ (x y : Nat) (l : Loc), ls[x]? = some l → ls[y]? = some l → x = y

/-- the registers of register variables are never handed out as temporaries -/
def VarRegsIn (ls : List Loc) (busy : List Nat) : Prop := ∀ (x g : Nat), ls[x]? = some (Loc.reg g) → g ∈ busy

/-- variables in scope live in pairwise distinct places -/
def LiveInj (ls : List Loc) (live : List Nat) : Prop :=
  ∀ x ∈ live, ∀ y ∈ live, ∀ l, ls[x]? = some l → ls[y]? = some l → x = y

theorem VarRegsIn.mono {ls : List Loc} {busy busy' : List Nat} (h : VarRegsIn ls busy)
    (hs : ∀ x ∈ busy, x ∈ busy') : VarRegsIn ls busy' := fun x g hl => hs g (h x g hl)

theorem mem_varRegs {ls : List Loc} {x g : Nat} (h : ls[x]? = some (.reg g)) : g ∈ varRegs ls := by
  unfold varRegs
  refine List.mem_filterMap.mpr ⟨.reg g, List.mem_of_getElem? h, rfl⟩

theorem mem_memCells {ls : List Loc} {x m : Nat} (h : ls[x]? = some (Loc.mem m)) : m ∈ memCells ls := by
  unfold memCells
  exact List.mem_filterMap.mpr ⟨.mem m, List.mem_of_getElem? h, rfl⟩

theorem locsInj_cons {l : Loc} {ls : List Loc} (hl : ∀ y : Nat, ls[y]? ≠ some l) (h : LocsInj ls) : LocsInj (l :: ls) := by
  intro x y l' hx hy
  cases x <;> cases y <;> simp only [List.getElem?_cons_zero, List.getElem?_cons_succ, Option.some.injEq] at hx hy
  · rfl
  · subst hx; exact absurd hy (hl _)
  · subst hy; exact absurd hx (hl _)
  · rw [h _ _ l' hx hy]

theorem locsFrom_spec (ds : List Bool) :
    ∀ (busy : List Nat) (m : Nat),
      (∀ (x g : Nat), (locsFrom ds busy m)[x]? = some (.reg g) → g ∉ busy) ∧
      (∀ (x k : Nat), (locsFrom ds busy m)[x]? = some (.mem k) → m ≤ k) ∧
      LocsInj (locsFrom ds busy m) := by
  induction ds with
  | nil =>
    intro busy m
    refine ⟨fun x g h => by simp [locsFrom] at h, fun x k h => by simp [locsFrom] at h,
            fun x y l h => by simp [locsFrom] at h⟩
  | cons d ds ih =>
    intro busy m
    cases d with
    | true =>
      obtain ⟨i1, i2, i3⟩ := ih (fresh busy :: busy) m
      simp only [locsFrom]
      refine ⟨fun x g h => ?_, fun x k h => ?_, locsInj_cons (fun y hy => i1 y _ hy List.mem_cons_self) i3⟩
      · cases x with
        | zero =>
          simp only [List.getElem?_cons_zero, Option.some.injEq, Loc.reg.injEq] at h
          subst h; exact fresh_not_mem _
        | succ x => exact fun hb => i1 x g h (List.mem_cons_of_mem _ hb)
      · cases x with
        | zero => simp at h
        | succ x => exact i2 x k h
    | false =>
      obtain ⟨i1, i2, i3⟩ := ih busy (m + 1)
      simp only [locsFrom]
      refine ⟨fun x g h => ?_, fun x k h => ?_, locsInj_cons (fun y hy => by have := i2 y _ hy; omega) i3⟩
      · cases x with
        | zero => simp at h
        | succ x => exact i1 x g h
      · cases x with
        | zero =>
          simp only [List.getElem?_cons_zero, Option.some.injEq, Loc.mem.injEq] at h
          omega
        | succ x => have := i2 x k h; omega

theorem locs_inj (decls : List Bool) : LocsInj (locs decls) := (locsFrom_spec decls [] 0).2.2

theorem locsFrom_length (ds : List Bool) : ∀ busy m, (locsFrom ds busy m).length = ds.length := by
  induction ds with
  | nil => intro busy m; rfl
  | cons d ds ih => intro busy m; cases d <;> simp [locsFrom, ih]

theorem liveInj_snoc {ls : List Loc} {live : List Nat} {x mx : Nat} (hinj : LiveInj ls live) (hxl : x ∉ live)
    (hl : ls[x]? = some (Loc.mem mx)) (hcell : ∀ y ∈ live, ls[y]? ≠ some (Loc.mem mx)) :
    LiveInj ls (live ++ [x]) := by
  intro y hy z hz l hly hlz
  rcases List.mem_append.mp hy with hy1 | hy1 <;> rcases List.mem_append.mp hz with hz1 | hz1
  · exact hinj y hy1 z hz1 l hly hlz
  · simp only [List.mem_singleton] at hz1; subst hz1
    rw [hl] at hlz; cases hlz
    exact absurd hly (hcell y hy1)
  · simp only [List.mem_singleton] at hy1; subst hy1
    rw [hl] at hly; cases hly
    exact absurd hlz (hcell z hz1)
  · simp only [List.mem_singleton] at hy1 hz1; rw [hy1, hz1]

theorem not_mem_of_not_contains {x : Nat} {live : List Nat} (h : (!live.contains x) = true) : x ∉ live :=
  fun hm => by rw [List.contains_iff_mem.mpr hm] at h; cases h

theorem newCells_liveInj (ls : List Loc) (xs : List Nat) :
    ∀ live, newCellsOK ls live xs = true → LiveInj ls live → LiveInj ls (live ++ xs) := by
  induction xs with
  | nil => intro live _ h; simpa using h
  | cons x xs ih =>
    intro live hn hinj
    simp only [newCellsOK, Bool.and_eq_true] at hn
    obtain ⟨⟨hxl0, hcell⟩, hrest⟩ := hn
    split at hcell
    · rename_i mx hl
      simp only [List.all_eq_true, bne_iff_ne, ne_eq] at hcell
      have := ih (live ++ [x]) hrest (liveInj_snoc hinj (not_mem_of_not_contains hxl0) hl hcell)
      simpa [List.append_assoc] using this
    · cases hcell

theorem newCells_spec (ls : List Loc) (xs : List Nat) :
    ∀ live, newCellsOK ls live xs = true → ∀ x ∈ xs, x ∉ live ∧ ∃ m, ls[x]? = some (Loc.mem m) := by
  induction xs with
  | nil => intro live _ x hx; cases hx
  | cons x0 xs ih =>
    intro live hn x hx
    simp only [newCellsOK, Bool.and_eq_true] at hn
    obtain ⟨⟨hxl0, hcell⟩, hrest⟩ := hn
    rcases List.mem_cons.mp hx with h' | h'
    · subst h'
      refine ⟨not_mem_of_not_contains hxl0, ?_⟩
      split at hcell
      · rename_i mx hl; exact ⟨mx, hl⟩
      · cases hcell
    · obtain ⟨h1, h2⟩ := ih (live ++ [x0]) hrest x h'
      exact ⟨fun hm => h1 (List.mem_append_left _ hm), h2⟩

theorem wfS_liveInj (ls : List Loc) (st : Stmt) :
    ∀ live, wfS ls st live = true → LiveInj ls live → LiveInj ls (live ++ topDecls st) := by
  induction st with
  | seq a b iha ihb =>
    intro live hwf hinj
    simp only [wfS, Bool.and_eq_true] at hwf
    simp only [topDecls, ← List.append_assoc]
    exact ihb _ hwf.2 (iha _ hwf.1 hinj)
  | decl x =>
    -- `var x` is placed like `x := …`
    intro live hwf hinj
    exact newCells_liveInj ls [x] live (by simpa [wfS, newCellsOK] using hwf) hinj
  | define ps =>
    intro live hwf hinj
    simp only [wfS, Bool.and_eq_true] at hwf
    simpa [topDecls] using newCells_liveInj ls _ live hwf.2 hinj
  | _ => intro live _ hinj; simpa [topDecls] using hinj

theorem topDecls_straight (st : Stmt) (h : straight st = true) : topDecls st = [] := by
  induction st with
  | seq a b iha ihb =>
    simp only [straight, Bool.and_eq_true] at h
    simp [topDecls, iha h.1, ihb h.2]
  | _ => first | rfl | simp [straight] at h

theorem compileS_wfS (ls : List Loc) (st : Stmt) (hst : straight st = true) :
    ∀ base busy r, compileS ls st base busy = some r → wfS ls st (List.range ls.length) = true := by
  induction st with
  | seq a b iha ihb =>
    intro base busy r h
    simp only [straight, Bool.and_eq_true] at hst
    simp only [compileS] at h
    split at h
    · cases h
    · rename_i h1
      split at h
      · cases h
      · rename_i h2
        simp [wfS, topDecls_straight a hst.1, iha hst.1 _ _ _ h1, ihb hst.2 _ _ _ h2]
  | assign x e =>
    intro base busy r h
    obtain ⟨l, ce, r', busy1, hl, he, _, _⟩ := compileS_assign (c := r.1) (busy' := r.2) h
    simp only [wfS, Bool.and_eq_true, List.contains_iff_mem, List.all_eq_true]
    exact ⟨List.mem_range.mpr (lt_of_getElem? hl), (compileE_spec ls e _ _ _ _ he).vars⟩
  | iowrite o e =>
    intro base busy r h
    obtain ⟨ce, r', he, _⟩ := compileS_iowrite (c := r.1) (busy' := r.2) h
    simp only [wfS, List.contains_iff_mem, List.all_eq_true]
    exact (compileE_spec ls e _ _ _ _ he).vars
  | inc x | dec x =>
    intro base busy r h
    simp only [compileS] at h
    simp only [wfS, List.contains_iff_mem]
    split at h
    · rename_i hl; exact List.mem_range.mpr (lt_of_getElem? hl)
    · rename_i hl; exact List.mem_range.mpr (lt_of_getElem? hl)
    · cases h
  | _ => first | (intro _ _ _ _; rfl) | simp [straight] at hst

theorem blockLocs_straight (st : Stmt) (hs : straight st = true) :
    ∀ mems, blockLocs st mems = ([], mems, []) := by
  induction st with
  | seq a b iha ihb =>
    intro mems
    simp only [straight, Bool.and_eq_true] at hs
    simp [blockLocs, iha hs.1, ihb hs.2]
  | _ => first | exact fun _ => rfl | simp [straight] at hs

theorem allLocs_straight (p : Prog) (hs : straight p.body = true) : allLocs p = locs p.decls := by
  simp [allLocs, blockLocs_straight p.body hs]

theorem defCells_facts (ps : List (Nat × Expr)) :
    ∀ mems, (∀ l ∈ (defCells ps mems).1, ∃ m, l = Loc.mem m) ∧ (defCells ps mems).1.length = ps.length ∧
      (∀ m ∈ mems, m ∈ (defCells ps mems).2.1) ∧ (∀ c ∈ (defCells ps mems).2.2, c ∉ mems) := by
  induction ps with
  | nil => intro mems; simp [defCells]
  | cons p ps ih =>
    intro mems
    obtain ⟨i1, i2, i3, i4⟩ := ih (fresh mems :: mems)
    simp only [defCells]
    refine ⟨fun l hl => ?_, by simp [i2], fun m hm => i3 m (List.mem_cons_of_mem _ hm), fun c hc => ?_⟩
    · rcases List.mem_cons.mp hl with h' | h'
      · exact ⟨_, h'⟩
      · exact i1 l h'
    · rcases List.mem_cons.mp hc with h' | h'
      · subst h'; exact fresh_not_mem _
      · exact fun hm => i4 c h' (List.mem_cons_of_mem _ hm)

theorem blockLocs_mem (st : Stmt) : ∀ mems, ∀ l ∈ (blockLocs st mems).1, ∃ m, l = Loc.mem m := by
  induction st with
  | seq a b iha ihb =>
    intro mems l hl
    simp only [blockLocs, List.mem_append] at hl
    rcases hl with hl | hl
    · exact iha _ l hl
    · exact ihb _ l hl
  | decl x => intro mems l hl; simp only [blockLocs, List.mem_singleton] at hl; exact ⟨_, hl⟩
  | ifThen _ t iht => intro mems l hl; simp only [blockLocs] at hl; exact iht _ l hl
  | ifElse _ t e iht ihe =>
    intro mems l hl
    simp only [blockLocs, List.mem_append] at hl
    rcases hl with hl | hl
    · exact iht _ l hl
    · exact ihe _ l hl
  | loop _ b ihb => intro mems l hl; simp only [blockLocs] at hl; exact ihb _ l hl
  | define ps => intro mems l hl; exact (defCells_facts ps mems).1 l (by simpa [blockLocs] using hl)
  | switch _ cs ih => intro mems l hl; simp only [blockLocs] at hl; exact ih _ l hl
  | swDefault b ih => intro mems l hl; simp only [blockLocs] at hl; exact ih _ l hl
  | swCase _ b r ihb ihr =>
    intro mems l hl
    simp only [blockLocs, List.mem_append] at hl
    rcases hl with hl | hl
    · exact ihb _ l hl
    · exact ihr _ l hl
  | loopP _ b p ihb ihp =>
    intro mems l hl
    simp only [blockLocs, List.mem_append] at hl
    rcases hl with hl | hl
    · exact ihb _ l hl
    · exact ihp _ l hl
  | _ => intro mems l hl; simp [blockLocs] at hl

theorem allLocs_top (p : Prog) (x : Nat) (hx : x < p.decls.length) : (allLocs p)[x]? = (locs p.decls)[x]? := by
  unfold allLocs
  exact List.getElem?_append_left (by rw [locs, locsFrom_length]; exact hx)

theorem allLocs_varRegs (p : Prog) : VarRegsIn (allLocs p) (varRegs (locs p.decls)) := by
  intro x g hl
  by_cases hx : x < p.decls.length
  · rw [allLocs_top p x hx] at hl
    exact mem_varRegs hl
  · unfold allLocs at hl
    rw [List.getElem?_append_right (by rw [locs, locsFrom_length]; omega)] at hl
    obtain ⟨m, hm⟩ := blockLocs_mem p.body _ _ (List.mem_of_getElem? hl)
    cases hm

theorem allLocs_liveInj (p : Prog) : LiveInj (allLocs p) (List.range p.decls.length) := by
  intro x hx y hy l hlx hly
  rw [allLocs_top p x (List.mem_range.mp hx)] at hlx
  rw [allLocs_top p y (List.mem_range.mp hy)] at hly
  exact locs_inj p.decls x y l hlx hly

/-! ### soundness of the cell release discipline (`blockLocs`) -/

theorem mem_foldl_erase {m : Nat} : ∀ (tt l : List Nat), m ∈ l → m ∉ tt → m ∈ tt.foldl List.erase l := by
  intro tt
  induction tt with
  | nil => intro l h _; exact h
  | cons t tt ih =>
    intro l h hn
    simp only [List.foldl_cons]
    have h1 : m ≠ t := fun e => hn (e ▸ List.mem_cons_self)
    exact ih _ ((List.mem_erase_of_ne h1).mpr h) (fun h' => hn (List.mem_cons_of_mem _ h'))

theorem blockLocs_length (st : Stmt) : ∀ mems, (blockLocs st mems).1.length = (declOrder st).length := by
  induction st with
  | define ps => intro mems; simp [blockLocs, declOrder, (defCells_facts ps mems).2.1]
  | _ => intro mems; simp [blockLocs, declOrder, *]

/-- cells that are busy stay busy, and the cells of the declarations made directly in the sequence
    were free before -/
theorem blockLocs_mono (st : Stmt) :
    ∀ mems, (∀ m ∈ mems, m ∈ (blockLocs st mems).2.1) ∧ (∀ c ∈ (blockLocs st mems).2.2, c ∉ mems) := by
  induction st with
  | seq a b iha ihb =>
    intro mems
    obtain ⟨a1, a2⟩ := iha mems
    obtain ⟨b1, b2⟩ := ihb (blockLocs a mems).2.1
    simp only [blockLocs]
    refine ⟨fun m hm => b1 m (a1 m hm), fun c hc => ?_⟩
    rcases List.mem_append.mp hc with hc | hc
    · exact a2 c hc
    · exact fun hm => b2 c hc (a1 c hm)
  | decl x =>
    intro mems
    simp only [blockLocs]
    exact ⟨fun m hm => List.mem_cons_of_mem _ hm, fun c hc => by
      simp only [List.mem_singleton] at hc; subst hc; exact fresh_not_mem _⟩
  | ifThen _ t ih | loop _ t ih | switch _ t ih =>
    intro mems
    simp only [blockLocs]
    exact ⟨(ih mems).1, fun c hc => by cases hc⟩
  | ifElse _ t e iht ihe | loopP _ t e iht ihe =>
    intro mems
    obtain ⟨t1, t2⟩ := iht mems
    simp only [blockLocs]
    refine ⟨fun m hm => ?_, fun c hc => by cases hc⟩
    refine (ihe _).1 m (mem_foldl_erase _ _ (t1 m hm) (fun hc => t2 m hc hm))
  | define ps =>
    intro mems
    simp only [blockLocs]
    exact ⟨(defCells_facts ps mems).2.2.1, (defCells_facts ps mems).2.2.2⟩
  | swDefault b ih =>
    intro mems
    simp only [blockLocs]
    exact ⟨(ih mems).1, fun c hc => by cases hc⟩
  | swCase _ b r ihb ihr =>
    intro mems
    simp only [blockLocs]
    exact ⟨fun m hm => (ihr _).1 m ((ihb mems).1 m hm), fun c hc => by cases hc⟩
  | _ => intro mems; simp [blockLocs]

theorem range'_split {A B : List Nat} {off : Nat} (h : A ++ B = List.range' off (A ++ B).length) :
    A = List.range' off A.length ∧ B = List.range' (off + A.length) B.length := by
  rw [List.length_append, ← List.range'_append_1] at h
  exact List.append_inj h (by simp)

/-- `:=` in the placement lemma: the new variables are numbered from `off`, their locations sit at `off`
    in `ls` and are the cells `defCells` takes one by one from the free ones, so each is different from
    the cells of what is in scope, the earlier variables of the same `:=` included (`newCellsOK`) — given
    that the cells of the variables in scope are busy, which stays true with the new ones added. -/
theorem defCells_wf (ls : List Loc) (ps : List (Nat × Expr)) :
    ∀ (off : Nat) (mems live : List Nat),
      scopedNew live (ps.map (·.1)) = true →
      ps.map (·.1) = List.range' off ps.length →
      (∀ k, k < (defCells ps mems).1.length → ls[off + k]? = (defCells ps mems).1[k]?) →
      (∀ y ∈ live, ∀ m, ls[y]? = some (Loc.mem m) → m ∈ mems) →
      newCellsOK ls live (ps.map (·.1)) = true ∧
      (∀ y ∈ live ++ ps.map (·.1), ∀ m, ls[y]? = some (Loc.mem m) → m ∈ (defCells ps mems).2.1) := by
  induction ps with
  | nil => intro off mems live _ _ _ h4; exact ⟨rfl, by simpa [defCells] using h4⟩
  | cons p ps ih =>
    intro off mems live h1 h2 h3 h4
    simp only [List.map_cons, scopedNew, Bool.and_eq_true] at h1
    simp only [List.map_cons, List.length_cons, List.range'_succ, List.cons.injEq] at h2
    obtain ⟨hx, hrest⟩ := h2
    have hl0 : ls[p.1]? = some (Loc.mem (fresh mems)) := by
      have := h3 0 (by simp [defCells])
      simpa [defCells, hx] using this
    have h3' : ∀ k, k < (defCells ps (fresh mems :: mems)).1.length →
        ls[off + 1 + k]? = (defCells ps (fresh mems :: mems)).1[k]? := by
      intro k hk
      have := h3 (k + 1) (by simp only [defCells, List.length_cons]; omega)
      simp only [defCells, List.getElem?_cons_succ] at this
      rw [← this]; congr 1; omega
    have h4' : ∀ y ∈ live ++ [p.1], ∀ m, ls[y]? = some (Loc.mem m) → m ∈ fresh mems :: mems := by
      intro y hy m hyl
      rcases List.mem_append.mp hy with hy | hy
      · exact List.mem_cons_of_mem _ (h4 y hy m hyl)
      · simp only [List.mem_singleton] at hy; subst hy
        rw [hl0] at hyl; cases hyl
        exact List.mem_cons_self
    obtain ⟨w1, w2⟩ := ih (off + 1) (fresh mems :: mems) (live ++ [p.1]) h1.2 hrest h3' h4'
    refine ⟨?_, ?_⟩
    · simp only [List.map_cons, newCellsOK, hl0, Bool.and_eq_true, List.all_eq_true, bne_iff_ne, ne_eq]
      exact ⟨⟨h1.1, fun y hy hyl => fresh_not_mem mems (h4 y hy _ hyl)⟩, w1⟩
    · intro y hy m hyl
      simp only [defCells]
      exact w2 y (by simpa [List.append_assoc] using hy) m hyl

theorem locs_split {ls : List Loc} {off : Nat} {A B : List Loc}
    (h : ∀ k, k < (A ++ B).length → ls[off + k]? = (A ++ B)[k]?) :
    (∀ k, k < A.length → ls[off + k]? = A[k]?) ∧ (∀ k, k < B.length → ls[off + A.length + k]? = B[k]?) := by
  refine ⟨fun k hk => ?_, fun k hk => ?_⟩
  · rw [h k (by rw [List.length_append]; omega), List.getElem?_append_left hk]
  · rw [Nat.add_assoc, h _ (by rw [List.length_append]; omega), List.getElem?_append_right (by omega)]
    simp

/-- a nested block: what it declares leaves the scope with it, the cells stay busy -/
theorem cells_of_block {ls : List Loc} {live td M : List Nat}
    (h : ∀ y ∈ live ++ td, ∀ m, ls[y]? = some (Loc.mem m) → m ∈ M) :
    ∀ y ∈ live ++ [], ∀ m, ls[y]? = some (Loc.mem m) → m ∈ M :=
  fun y hy m hyl => h y (List.mem_append_left _ (by simpa using hy)) m hyl

/-- the placement lemma: a well-scoped statement whose declarations are numbered in textual order
    from `off`, and whose locations sit at offset `off` of `ls`, passes the placement check — provided
    the cells of the variables in scope are busy — and keeps that invariant -/
theorem blockLocs_wf (ls : List Loc) (st : Stmt) :
    ∀ (off : Nat) (mems live : List Nat),
      scopedS st live = true →
      declOrder st = List.range' off (declOrder st).length →
      (∀ k, k < (blockLocs st mems).1.length → ls[off + k]? = (blockLocs st mems).1[k]?) →
      (∀ y ∈ live, ∀ m, ls[y]? = some (Loc.mem m) → m ∈ mems) →
      wfS ls st live = true ∧
      (∀ y ∈ live ++ topDecls st, ∀ m, ls[y]? = some (Loc.mem m) → m ∈ (blockLocs st mems).2.1) := by
  induction st with
  | decl x =>
    intro off mems live h1 h2 h3 h4
    simp only [declOrder, List.length_singleton, List.range'_one, List.cons.injEq, and_true] at h2
    subst h2
    have hx : ls[x]? = some (Loc.mem (fresh mems)) := by
      have := h3 0 (by simp [blockLocs])
      simpa [blockLocs] using this
    simp only [scopedS] at h1
    refine ⟨?_, ?_⟩
    · simp only [wfS, hx, Bool.and_eq_true, List.all_eq_true, bne_iff_ne, ne_eq]
      exact ⟨h1, fun y hy hyl => fresh_not_mem mems (h4 y hy _ hyl)⟩
    · intro y hy m hyl
      simp only [topDecls] at hy
      simp only [blockLocs]
      rcases List.mem_append.mp hy with hy | hy
      · exact List.mem_cons_of_mem _ (h4 y hy m hyl)
      · simp only [List.mem_singleton] at hy; subst hy
        rw [hx] at hyl; cases hyl
        exact List.mem_cons_self
  | seq a b iha ihb =>
    intro off mems live h1 h2 h3 h4
    simp only [scopedS, Bool.and_eq_true] at h1
    simp only [declOrder] at h2
    obtain ⟨ra, rb⟩ := range'_split h2
    have hla := blockLocs_length a mems
    have hlb := blockLocs_length b (blockLocs a mems).2.1
    obtain ⟨h3a, h3b⟩ := locs_split (A := (blockLocs a mems).1) (B := (blockLocs b (blockLocs a mems).2.1).1)
      h3
    rw [hla] at h3b
    obtain ⟨wa, ca⟩ := iha off mems live h1.1 ra h3a h4
    obtain ⟨wb, cb⟩ := ihb (off + (declOrder a).length) (blockLocs a mems).2.1 (live ++ topDecls a) h1.2 rb h3b ca
    refine ⟨by simp only [Bool.and_self, wfS, wa, wb], ?_⟩
    simpa [topDecls, blockLocs, List.append_assoc] using cb
  | ifThen c t iht =>
    intro off mems live h1 h2 h3 h4
    simp only [scopedS, Bool.and_eq_true] at h1
    simp only [declOrder] at h2
    obtain ⟨wt, ct⟩ := iht off mems live h1.2 h2 h3 h4
    exact ⟨by simp only [Bool.and_self, wfS, h1.1, wt], cells_of_block ct⟩
  | loop oc b ihb =>
    intro off mems live h1 h2 h3 h4
    simp only [declOrder] at h2
    cases oc with
    | none =>
      simp only [scopedS] at h1
      obtain ⟨wb, cb⟩ := ihb off mems live h1 h2 h3 h4
      exact ⟨by simp only [wfS, wb], cells_of_block cb⟩
    | some c =>
      simp only [scopedS, Bool.and_eq_true] at h1
      obtain ⟨wb, cb⟩ := ihb off mems live h1.2 h2 h3 h4
      exact ⟨by simp only [Bool.and_self, wfS, h1.1, wb], cells_of_block cb⟩
  | ifElse c t e iht ihe | loopP c t e iht ihe =>
    -- the cells of the first block are released before the second is placed
    intro off mems live h1 h2 h3 h4
    simp only [scopedS, Bool.and_eq_true] at h1
    simp only [declOrder] at h2
    obtain ⟨rt, re⟩ := range'_split h2
    have hlt := blockLocs_length t mems
    let memsE := (blockLocs t mems).2.2.foldl List.erase (blockLocs t mems).2.1
    obtain ⟨h3t, h3e⟩ := locs_split (A := (blockLocs t mems).1) (B := (blockLocs e memsE).1)
      h3
    rw [hlt] at h3e
    obtain ⟨wt, ct⟩ := iht off mems live h1.1.2 rt h3t h4
    obtain ⟨t1, t2⟩ := blockLocs_mono t mems
    have h4e : ∀ y ∈ live, ∀ m, ls[y]? = some (Loc.mem m) → m ∈ memsE := by
      intro y hy m hyl
      have hm := h4 y hy m hyl
      exact mem_foldl_erase _ _ (t1 m hm) (fun hc => t2 m hc hm)
    obtain ⟨we, ce⟩ := ihe (off + (declOrder t).length) memsE live h1.2 re h3e h4e
    exact ⟨by simp only [Bool.and_self, wfS, h1.1.1, wt, we], cells_of_block ce⟩
  | define ps =>
    intro off mems live h1 h2 h3 h4
    simp only [scopedS, Bool.and_eq_true] at h1
    simp only [declOrder, List.length_map] at h2
    obtain ⟨w1, w2⟩ := defCells_wf ls ps off mems live h1.2 h2 h3 h4
    exact ⟨by simp only [wfS, Bool.and_eq_true]; exact ⟨h1.1, w1⟩, by simpa [topDecls, blockLocs] using w2⟩
  | switch tag cs ih =>
    intro off mems live h1 h2 h3 h4
    simp only [scopedS, Bool.and_eq_true] at h1
    simp only [declOrder] at h2
    obtain ⟨wt, ct⟩ := ih off mems live h1.2 h2 h3 h4
    exact ⟨by simp only [Bool.and_self, wfS, h1.1.1, h1.1.2, wt], cells_of_block ct⟩
  | swDefault b ih =>
    intro off mems live h1 h2 h3 h4
    simp only [scopedS] at h1
    simp only [declOrder] at h2
    obtain ⟨wt, ct⟩ := ih off mems live h1 h2 h3 h4
    exact ⟨by simp only [wfS, wt], cells_of_block ct⟩
  | swCase v a b iha ihb =>
    intro off mems live h1 h2 h3 h4
    simp only [scopedS, Bool.and_eq_true] at h1
    simp only [declOrder] at h2
    obtain ⟨ra, rb⟩ := range'_split h2
    have hla := blockLocs_length a mems
    obtain ⟨h3a, h3b⟩ := locs_split (A := (blockLocs a mems).1) (B := (blockLocs b (blockLocs a mems).2.1).1)
      h3
    rw [hla] at h3b
    obtain ⟨wa, ca⟩ := iha off mems live h1.1 ra h3a h4
    obtain ⟨wb, cb⟩ := ihb (off + (declOrder a).length) (blockLocs a mems).2.1 live h1.2 rb h3b
      (fun y hy m hyl => ca y (List.mem_append_left _ hy) m hyl)
    exact ⟨by simp only [Bool.and_self, wfS, wa, wb], cells_of_block cb⟩
  | _ =>
    intro off mems live h1 _ _ h4
    exact ⟨h1, fun y hy m hyl => h4 y ((List.mem_append.mp hy).resolve_right List.not_mem_nil) m hyl⟩

theorem placement_sound (p : Prog) (h : scopedProg p = true) : wfProg p = true := by
  simp only [scopedProg, Bool.and_eq_true, beq_iff_eq] at h
  obtain ⟨hs, hd⟩ := h
  have hlen : (locs p.decls).length = p.decls.length := by rw [locs, locsFrom_length]
  refine (blockLocs_wf (allLocs p) p.body p.decls.length (memCells (locs p.decls)) (List.range p.decls.length)
    hs hd ?_ ?_).1
  · intro k hk
    unfold allLocs
    rw [List.getElem?_append_right (by omega)]
    simp [hlen]
  · intro y hy m hyl
    rw [allLocs_top p y (List.mem_range.mp hy)] at hyl
    exact mem_memCells hyl

end BMV.Bondgo
