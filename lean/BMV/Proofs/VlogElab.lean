/-
  C18, `wf_total`: the second elaboration pass (`bodyPass`) keeps everything it stores well-formed
  w.r.t. the signals declared so far, hence `elabModule` / `elaborate` return a `Resolved` design
  (`elaborate_resolved`, which `BMV.Props.C18.elab_sigs_in_range` restates).
-/
import BMV.Proofs.VlogResolve
namespace BMV.Vlog

theorem EMSpec.bind_fail {α β : Type} {m : String} {f : α → EM β} {s : ElabSt} {Q : β → ElabSt → Prop} :
    EMSpec (efail m >>= f) s Q :=
  .bind (Q1 := fun _ _ => False) .fail fun _ _ h => h.elim

theorem EMSpec.forIn {α β : Type} {f : α → β → EM (ForInStep β)} (I : β → ElabSt → Prop) :
    ∀ (l : List α) (b : β) (s : ElabSt), I b s →
      (∀ a b s, a ∈ l → I b s → EMSpec (f a b) s fun r s1 => I (stepVal r) s1) → EMSpec (forIn l b f) s I
  | [], b, s, hI, _ => .pure hI
  | a :: l, b, s, hI, hf => by
    rw [List.forIn_cons]
    refine .bind (hf a b s (List.mem_cons_self ..) hI) fun r s1 hr => ?_
    cases r with
    | done b1 => exact .pure hr
    | yield b1 => exact EMSpec.forIn I l b1 s1 hr fun a b s ha => hf a b s (List.mem_cons_of_mem _ ha)

theorem EMSpec.mapM_state {α β : Type} {f : α → EM β} (hf : ∀ a s, EMSpec (f a) s fun _ s1 => s1 = s) :
    ∀ (l : List α) (s : ElabSt), EMSpec (l.mapM f) s fun _ s' => s' = s
  | [], s => .pure rfl
  | a :: l, s => by
    rw [List.mapM_cons]
    exact .bind (hf a s) fun r s1 e1 => .bind (EMSpec.mapM_state hf l s1) fun rs s2 e2 => .pure (e2.trans e1)

/-- everything stored so far is well-formed w.r.t. the signals declared so far -/
structure StOk (st : ElabSt) : Prop where
  assigns : ∀ a, a ∈ st.assigns.toList → wfE st.sigs.size a.1 = true ∧ wfE st.sigs.size a.2 = true
  combs : ∀ s, s ∈ st.combs.toList → wfS st.sigs.size s = true
  procs : ∀ p, p ∈ st.procs.toList → wfS st.sigs.size p.body = true
  inits : ∀ s, s ∈ st.inits.toList → wfS st.sigs.size s = true

theorem StOk.ext {s s' : ElabSt} (h : StOk s) (e : SigExt s s') : StOk s' where
  assigns := by
    rw [e.assigns]; intro a ha
    exact ⟨wfE_mono e.size _ (h.assigns a ha).1, wfE_mono e.size _ (h.assigns a ha).2⟩
  combs := by rw [e.combs]; intro x hx; exact wfS_mono e.size _ (h.combs x hx)
  procs := by rw [e.procs]; intro x hx; exact wfS_mono e.size _ (h.procs x hx)
  inits := by rw [e.inits]; intro x hx; exact wfS_mono e.size _ (h.inits x hx)

theorem forall_mem_push {α : Type} {P : α → Prop} {xs : Array α} {b : α} (h : ∀ a, a ∈ xs.toList → P a)
    (hb : P b) : ∀ a, a ∈ (xs.push b).toList → P a := by
  intro a ha
  rw [Array.toList_push, List.mem_append, List.mem_singleton] at ha
  rcases ha with ha | rfl
  · exact h a ha
  · exact hb

theorem StOk.pushAssign {s : ElabSt} (h : StOk s) (l r : Expr) (hl : wfE s.sigs.size l = true)
    (hr : wfE s.sigs.size r = true) : StOk { s with assigns := s.assigns.push (l, r) } :=
  ⟨forall_mem_push h.assigns ⟨hl, hr⟩, h.combs, h.procs, h.inits⟩

theorem StOk.pushInit {s : ElabSt} (h : StOk s) (b : Stmt) (hb : wfS s.sigs.size b = true) :
    StOk { s with inits := s.inits.push b } :=
  ⟨h.assigns, h.combs, h.procs, forall_mem_push h.inits hb⟩

theorem StOk.pushComb {s : ElabSt} (h : StOk s) (b : Stmt) (hb : wfS s.sigs.size b = true) :
    StOk { s with combs := s.combs.push b } :=
  ⟨h.assigns, forall_mem_push h.combs hb, h.procs, h.inits⟩

theorem StOk.pushProc {s : ElabSt} (h : StOk s) (p : Proc) (hb : wfS s.sigs.size p.body = true) :
    StOk { s with procs := s.procs.push p } :=
  ⟨h.assigns, h.combs, forall_mem_push h.procs hb, h.inits⟩

theorem StOk.warn {s : ElabSt} (h : StOk s) (w : Array String) : StOk { s with warnings := w } :=
  ⟨h.assigns, h.combs, h.procs, h.inits⟩


theorem declPass_spec (pfx : String) (isTop : Bool) (ov : ParamOv) :
    ∀ (items : List Item) (sc : Scope) (k : Nat) (s s' : ElabSt) (sc' : Scope), ScOk sc s.sigs.size →
      declPass pfx isTop ov items sc k s = .ok (sc', s') → ScOk sc' s'.sigs.size ∧ SigExt s s'
  | [], sc, k, s, s', sc', hsc, h => by
    unfold declPass at h
    obtain ⟨rfl, rfl⟩ := em_pure_ok h
    exact ⟨hsc, SigExt.refl _⟩
  | .param isLocal range name value :: rest, sc, k, s, s', sc', hsc, h => by
    unfold declPass at h
    split at h
    · exact (em_efail h).elim
    · obtain ⟨dflt, s1, h1, ha⟩ := em_bind_ok h
      obtain ⟨_, rfl⟩ := em_liftE h1
      simp only [] at ha
      exact declPass_spec pfx isTop ov rest _ _ _ s' sc' (ScOk.insert_const hsc _ _ _) ha
  | .decl d :: rest, sc, k, s, s', sc', hsc, h => by
    unfold declPass at h
    obtain ⟨sc1, s1, h1, ha⟩ := em_bind_ok h
    obtain ⟨hsc1, he1⟩ := declareAll_spec pfx isTop d d.names sc s s1 sc1 hsc h1
    obtain ⟨hsc2, he2⟩ := declPass_spec pfx isTop ov rest sc1 k s1 s' sc' hsc1 ha
    exact ⟨hsc2, he1.trans he2⟩
  | .assign _ _ :: rest, sc, k, s, s', sc', hsc, h => by
    unfold declPass at h; exact declPass_spec pfx isTop ov rest sc k s s' sc' hsc h
  | .always _ _ _ :: rest, sc, k, s, s', sc', hsc, h => by
    unfold declPass at h; exact declPass_spec pfx isTop ov rest sc k s s' sc' hsc h
  | .initial _ :: rest, sc, k, s, s', sc', hsc, h => by
    unfold declPass at h; exact declPass_spec pfx isTop ov rest sc k s s' sc' hsc h
  | .inst _ _ _ _ :: rest, sc, k, s, s', sc', hsc, h => by
    unfold declPass at h; exact declPass_spec pfx isTop ov rest sc k s s' sc' hsc h

theorem connList_src (ports : List String) (conns : Conns) (cl : List (String × Option Expr))
    (hs : srcConns conns = true) (h : connList ports conns = .ok cl) :
    ∀ p e, (p, some e) ∈ cl → srcE e = true := by
  intro p e hmem
  cases conns with
  | named cs =>
    simp only [connList] at h
    have : cl = cs := by
      revert h
      generalize (forIn cs PUnit.unit _ : R PUnit) = x
      intro h
      cases x with
      | error e => simp [Functor.map, Except.map] at h
      | ok a => simp [Functor.map, Except.map] at h; exact h.symm
    subst this
    simp only [srcConns, List.all_eq_true] at hs
    exact hs _ hmem
  | positional es =>
    simp only [connList] at h
    split at h
    · simp [throw, throwThe, MonadExceptOf.throw] at h
    · simp only [pure, Except.pure, Except.ok.injEq] at h; subst h
      simp only [srcConns, List.all_eq_true] at hs
      exact hs _ (List.of_mem_zip hmem).2


/-- the specification of `elabModule` at instantiation depth `fuel`: it keeps `StOk`, only adds signals,
    and the scope it returns knows only existing signals -/
def EMdSpec (mods : List Module) (fuel : Nat) : Prop :=
  ∀ (m : Module) (pfx : String) (isTop : Bool) (ov : ParamOv) (s s' : ElabSt) (csc : Scope),
    srcModule m = true → StOk s → elabModule mods m pfx isTop ov fuel s = .ok (csc, s') →
    StOk s' ∧ s.sigs.size ≤ s'.sigs.size ∧ ScOk csc s'.sigs.size

theorem srcE_id (n : String) : srcE (.id n) = true := rfl

theorem bodyPass_spec (mods : List Module) (hmods : ∀ m, m ∈ mods → srcModule m = true) (fuel : Nat)
    (hE : ∀ k, fuel = k + 1 → EMdSpec mods k) (pfx : String) (sc : Scope) :
    ∀ (items : List Item) (s s' : ElabSt), items.all srcItem = true → ScOk sc s.sigs.size → StOk s →
      bodyPass mods pfx sc fuel items s = .ok ((), s') → StOk s' ∧ s.sigs.size ≤ s'.sigs.size
  | [], s, s', _, _, hst, h => by
    unfold bodyPass at h
    obtain ⟨_, rfl⟩ := em_pure_ok h
    exact ⟨hst, Nat.le_refl _⟩
  | it :: rest, s, s', hsrc, hsc, hst, h => by
    simp only [List.all_cons, Bool.and_eq_true] at hsrc
    -- the remaining items, run from any later state
    have tail : ∀ s1, ScOk sc s1.sigs.size → StOk s1 → s.sigs.size ≤ s1.sigs.size →
        EMSpec (bodyPass mods pfx sc fuel rest) s1 fun _ s' => StOk s' ∧ s.sigs.size ≤ s'.sigs.size :=
      fun s1 hsc1 hst1 hle _ s' h1 =>
        (bodyPass_spec mods hmods fuel hE pfx sc rest s1 s' hsrc.2 hsc1 hst1 h1).imp_right (Nat.le_trans hle)
    refine (?_ : EMSpec _ s fun _ s' => StOk s' ∧ s.sigs.size ≤ s'.sigs.size) _ s' h
    unfold bodyPass
    cases it with
    | param => exact tail s hsc hst (Nat.le_refl _)
    | assign l r =>
      have hs := Bool.and_eq_true_iff.mp hsrc.1
      refine .lift fun l' hl => .lift fun r' hr => .modify (tail _ hsc ?_ (Nat.le_refl _))
      exact hst.pushAssign _ _ (resolveExpr_wf sc _ hsc l l' hs.1 hl) (resolveExpr_wf sc _ hsc r r' hs.2 hr)
    | initial b =>
      refine .bind (resolveStmt_em sc pfx b s hsc hsrc.1) fun b' s1 ⟨hw, he⟩ =>
        .modify (tail _ (hsc.mono he.size) ((hst.ext he).pushInit b' hw) he.size)
    | decl d =>
      refine .bind (EMSpec.forIn (fun _ st => StOk st ∧ st.sigs.size = s.sigs.size) d.names _ s ⟨hst, rfl⟩ ?_)
        fun _ s1 ⟨hst1, hsz⟩ => tail s1 (hsz ▸ hsc) hst1 (Nat.le_of_eq hsz.symm)
      intro n _ st hn ⟨hI, hsz⟩
      have hn' : srcOpt n.init = true := List.all_eq_true.mp hsrc.1 n hn
      have hscI : ScOk sc st.sigs.size := hsz ▸ hsc
      split
      · exact .pure ⟨hI, hsz⟩
      · next e heq =>
        rw [heq] at hn'
        refine .lift fun e' he => .lift fun l' hl => ?_
        have we := resolveExpr_wf sc _ hscI e e' hn' he
        have wl := resolveExpr_wf sc _ hscI _ l' (srcE_id n.name) hl
        exact .ite (fun _ => .modify (.pure ⟨hI.pushInit _ (band wl we), hsz⟩))
          fun _ => .modify (.pure ⟨hI.pushAssign _ _ wl we, hsz⟩)
    | always star evs b =>
      have hs := Bool.and_eq_true_iff.mp hsrc.1
      refine .bind (resolveStmt_em sc pfx b s hsc hs.2) fun b' s1 ⟨hw, he⟩ => ?_
      have hsc1 := hsc.mono he.size
      have hst1 := hst.ext he
      refine .ite (fun _ => .modify (tail _ hsc1 (hst1.pushComb b' hw) he.size)) fun _ =>
        .ite (fun _ => .bind_fail) fun _ => .ite (fun _ => .bind_fail) fun _ => ?_
      refine .bind (EMSpec.mapM_state ?_ evs s1) fun es s2 hs2 => ?_
      · intro a st
        refine .lift fun x _ => ?_
        split
        · exact .pure rfl
        · exact .fail
      · subst hs2
        exact .modify (tail _ hsc1 (hst1.pushProc ⟨es, b'⟩ hw) he.size)
    | inst modName name params conns =>
      cases fuel with
      | zero => exact .bind_fail
      | succ fuel' =>
        dsimp only
        split
        · exact .bind_fail
        · next m hfm =>
          have hm : srcModule m = true := hmods m (List.mem_of_find?_eq_some hfm)
          refine .ite (fun _ => .bind_fail) fun _ => .lift fun ov _ =>
            .bind (fun csc s2 h3 => hE fuel' rfl m _ false ov s s2 csc hm hst h3) fun csc s2 ⟨hst2, hsz2, hcsc⟩ =>
            .lift fun cl hcl => ?_
          have hcl' : connList m.ports conns = .ok cl := by
            cases hc : connList m.ports conns with
            | ok c => rw [hc] at hcl; exact hcl
            | error e => rw [hc] at hcl; cases hcl
          have hsrcl := connList_src m.ports conns cl hsrc.1 hcl'
          refine .bind (EMSpec.forIn (fun _ st => StOk st ∧ st.sigs.size = s2.sigs.size) cl _ s2 ⟨hst2, rfl⟩ ?_)
            fun _ s4 ⟨hst4, hsz4⟩ => tail s4 (hsz4 ▸ hsc.mono hsz2) hst4 (hsz4 ▸ hsz2)
          intro (p, oe) _ st ha ⟨hI, hsz⟩
          have hscI : ScOk sc st.sigs.size := hsz ▸ hsc.mono hsz2
          have hcscI : ScOk csc st.sigs.size := hsz ▸ hcsc
          dsimp only
          split
          · next _ _ i e heq =>
            have hi : i < st.sigs.size := hcscI p i heq
            refine .lift fun e' he => .get ?_
            have we := resolveExpr_wf sc _ hscI e e' (hsrcl p e ha) he
            exact .ite (fun _ => .modify (.pure ⟨hI.pushAssign _ _ (decide_eq_true hi) we, hsz⟩)) fun _ =>
              .ite (fun _ => .modify (.pure ⟨hI.pushAssign _ _ we (decide_eq_true hi), hsz⟩)) fun _ => .bind_fail
          · exact .modify (.pure ⟨hI.warn _, hsz⟩)
          · exact .bind_fail

theorem ScOk.empty (n : Nat) : ScOk ({} : Scope) n := by
  intro name i h
  simp at h

theorem elabModule_of_bodyPass (mods : List Module) (fuel : Nat)
    (hB : ∀ (pfx : String) (sc : Scope) (items : List Item) (s s' : ElabSt), items.all srcItem = true →
      ScOk sc s.sigs.size → StOk s → bodyPass mods pfx sc fuel items s = .ok ((), s') →
      StOk s' ∧ s.sigs.size ≤ s'.sigs.size) : EMdSpec mods fuel := by
  intro m pfx isTop ov s s' csc hm hst h
  unfold elabModule at h
  simp only [] at h
  obtain ⟨sc, s1, h1, h2⟩ := em_bind_ok h
  obtain ⟨hsc1, he1⟩ := declPass_spec pfx isTop ov m.items {} 0 s s1 sc (ScOk.empty _) h1
  obtain ⟨_, s2, h3, h4⟩ := em_bind_ok h2
  have hs2 : s2 = s1 := by
    refine EMSpec.forIn (fun _ st => st = s1) m.ports _ s1 rfl (fun p _ st _ hI => ?_) _ s2 h3
    subst hI
    split
    · exact .get (.ite (fun _ => .bind_fail) fun _ => .pure rfl)
    · exact .bind_fail
  subst hs2
  obtain ⟨_, s3, h5, h6⟩ := em_bind_ok h4
  obtain ⟨hst3, hsz3⟩ := hB pfx sc m.items s2 s3 hm hsc1 (hst.ext he1) h5
  obtain ⟨rfl, rfl⟩ := em_pure_ok h6
  exact ⟨hst3, Nat.le_trans he1.size hsz3, hsc1.mono hsz3⟩

theorem elab_specs (mods : List Module) (hmods : ∀ m, m ∈ mods → srcModule m = true) :
    ∀ (fuel : Nat), EMdSpec mods fuel
  | 0 => elabModule_of_bodyPass mods 0 (fun pfx sc items s s' hi hsc hst h =>
      bodyPass_spec mods hmods 0 (fun k hk => by omega) pfx sc items s s' hi hsc hst h)
  | k + 1 => elabModule_of_bodyPass mods (k + 1) (fun pfx sc items s s' hi hsc hst h =>
      bodyPass_spec mods hmods (k + 1) (fun k' hk => by
        have : k' = k := by omega
        subst this
        exact elab_specs mods hmods k') pfx sc items s s' hi hsc hst h)

theorem StOk.init : StOk ({} : ElabSt) :=
  ⟨fun _ h => by simp at h, fun _ h => by simp at h, fun _ h => by simp at h, fun _ h => by simp at h⟩

theorem resolved_of_stOk (st : ElabSt) (hst : StOk st) (topName : String) (roots : Array Nat) :
    ({ top := topName, sigs := st.sigs, assigns := st.assigns, combs := st.combs, procs := st.procs,
       inits := st.inits, roots := roots, warnings := st.warnings } : Design).Resolved = true := by
  unfold Design.Resolved
  simp only [Bool.and_eq_true, List.all_eq_true]
  exact ⟨⟨⟨fun a ha => by simpa using hst.assigns a ha, hst.combs⟩, hst.procs⟩, hst.inits⟩

theorem elaborate_resolved (src : Source) (hsrc : src.fromReader = true) (top : Option String) (d : Design)
    (h : elaborate src top = .ok d) : d.Resolved = true := by
  have hmods : ∀ m, m ∈ src.modules → srcModule m = true := List.all_eq_true.mp hsrc
  unfold elaborate at h
  -- `rest`: what `elaborate` does once the top module's name is chosen
  extract_lets rest at h
  have key : ∀ tn, rest tn = .ok d → d.Resolved = true := by
    intro tn h
    dsimp only [rest] at h
    split at h
    · next m hfm =>
      obtain ⟨⟨csc, st⟩, hr, h⟩ := bind_ok h
      cases h
      have hm : srcModule m = true := hmods m (List.mem_of_find?_eq_some hfm)
      obtain ⟨hst, _, _⟩ := elab_specs src.modules hmods 64 m "" true .none {} st csc hm StOk.init hr
      exact resolved_of_stOk st hst _ _
    · cases h
  cases top with
  | some t =>
    obtain ⟨tn, _, h⟩ := bind_ok h
    exact key tn h
  | none =>
    dsimp only at h
    split at h
    · obtain ⟨tn, _, h⟩ := bind_ok h
      exact key tn h
    · obtain ⟨tn, htn, _⟩ := bind_ok h
      cases htn

end BMV.Vlog
