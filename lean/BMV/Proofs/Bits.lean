import BMV.Bits
namespace BMV.Bits

theorem foldl_acc (acc : Nat) (b : Bits) :
    b.foldl (fun acc x => 2 * acc + x.toNat) acc = acc * 2 ^ b.length + getId b := by
  induction b generalizing acc with
  | nil => simp [getId]
  | cons x xs ih =>
    simp only [List.foldl_cons, List.length_cons, getId]
    rw [ih, ih (2 * 0 + x.toNat), Nat.pow_succ]
    simp only [Nat.mul_zero, Nat.zero_add]
    rw [Nat.add_mul, Nat.add_assoc]
    congr 1
    ac_rfl

theorem getId_append (a b : Bits) : getId (a ++ b) = getId a * 2 ^ b.length + getId b := by
  unfold getId
  rw [List.foldl_append, foldl_acc]
  rfl

theorem getId_cons (x : Bool) (l : Bits) : getId (x :: l) = x.toNat * 2 ^ l.length + getId l := by
  rw [← List.singleton_append, getId_append]; simp [getId]

theorem getId_snoc (l : Bits) (x : Bool) : getId (l ++ [x]) = 2 * getId l + x.toNat := by
  rw [getId_append]; simp [getId]; omega

theorem getId_replicate_false (k : Nat) : getId (List.replicate k false) = 0 := by
  induction k with
  | zero => rfl
  | succ k ih => rw [List.replicate_succ, getId_cons, ih]; simp

theorem getId_lt (b : Bits) : getId b < 2 ^ b.length := by
  induction b with
  | nil => simp [getId]
  | cons x xs ih =>
    rw [getId_cons, List.length_cons, Nat.pow_succ]
    have := Nat.mul_le_mul_right (2 ^ xs.length) (Bool.toNat_le x)
    omega

theorem getId_mid (p m t : Bits) : getId (p ++ (m ++ t)) / 2 ^ t.length % 2 ^ m.length = getId m := by
  rw [← List.append_assoc, getId_append, getId_append, Nat.add_comm _ (getId t),
    Nat.add_mul_div_right _ _ (Nat.two_pow_pos _), Nat.div_eq_of_lt (getId_lt t), Nat.zero_add,
    Nat.mul_comm, Nat.mul_add_mod, Nat.mod_eq_of_lt (getId_lt m)]

/-- the Go slice `instr[a:a+w]` read with get_id is the HDL part-select
    `(word >> (W-a-w)) % 2^w` — bridge used by C01 -/
theorem slice_eq_extract (word : Bits) (a w : Nat) (h : a + w ≤ word.length) :
    getId ((word.drop a).take w) = (getId word / 2 ^ (word.length - a - w)) % 2 ^ w := by
  have := getId_mid (word.take a) ((word.drop a).take w) ((word.drop a).drop w)
  rw [List.take_append_drop, List.take_append_drop, List.length_take, List.length_drop, List.length_drop,
    Nat.min_eq_left (by omega)] at this
  exact this.symm

theorem getId_zerosPrefix (w : Nat) (b : Bits) : getId (zerosPrefix w b) = getId b := by
  unfold zerosPrefix
  rw [getId_append, getId_replicate_false]; simp

theorem length_zerosPrefix (w : Nat) (b : Bits) : (zerosPrefix w b).length = max w b.length := by
  unfold zerosPrefix; rw [List.length_append, List.length_replicate]; omega

theorem getBinaryAux_fuel : ∀ (fuel fuel' n : Nat), n ≤ fuel → n ≤ fuel' →
    getBinaryAux fuel n = getBinaryAux fuel' n
  | 0, 0, _, _, _ => rfl
  | 0, _ + 1, _, h, _ => by cases Nat.le_zero.mp h; rfl
  | _ + 1, 0, _, _, h => by cases Nat.le_zero.mp h; rfl
  | f + 1, f' + 1, n, h, h' => by
    unfold getBinaryAux
    split
    · rfl
    · rw [getBinaryAux_fuel f f' (n / 2) (by omega) (by omega)]

theorem getBinary_eq (n : Nat) :
    getBinary n = if n < 2 then [n == 1] else getBinary (n / 2) ++ [n % 2 == 1] := by
  unfold getBinary
  cases n with
  | zero => rfl
  | succ m =>
    rw [getBinaryAux]
    split
    · rfl
    · rw [getBinaryAux_fuel m ((m + 1) / 2) ((m + 1) / 2) (by omega) (Nat.le_refl _)]

theorem getId_getBinary (n : Nat) : getId (getBinary n) = n := by
  induction n using Nat.strongRecOn with
  | _ n ih =>
    rw [getBinary_eq]
    split
    · have : n = 0 ∨ n = 1 := by omega
      rcases this with rfl | rfl <;> rfl
    · rw [getId_snoc, ih (n / 2) (by omega)]
      rcases Nat.mod_two_eq_zero_or_one n with e | e <;> simp [e] <;> omega

theorem getBinary_length_pos (n : Nat) : 0 < (getBinary n).length := by
  rw [getBinary_eq]; split <;> simp

theorem getBinary_length_le_iff (n w : Nat) (hw : 1 ≤ w) : (getBinary n).length ≤ w ↔ n < 2 ^ w := by
  constructor
  · -- the numeral's value is below 2^(its length)
    intro h
    have := getId_lt (getBinary n)
    rw [getId_getBinary] at this
    exact Nat.lt_of_lt_of_le this (Nat.pow_le_pow_right (by omega) h)
  · -- halving `n` takes one bit off the bound
    intro h
    induction n using Nat.strongRecOn generalizing w with
    | _ n ih =>
      rw [getBinary_eq]
      split
      · exact hw
      · obtain ⟨v, rfl⟩ : ∃ v, w = v + 1 := ⟨w - 1, by omega⟩
        rw [Nat.pow_succ] at h
        have hv : 1 ≤ v := by
          apply Nat.pos_of_ne_zero; rintro rfl; omega
        have := ih (n / 2) (by omega) v hv (by omega)
        simp only [List.length_append, List.length_singleton]; omega

theorem getId_encField (w n : Nat) : getId (encField w n) = n := by
  unfold encField; rw [getId_zerosPrefix, getId_getBinary]

theorem length_encField (w n : Nat) : (encField w n).length = max w (getBinary n).length :=
  length_zerosPrefix _ _

theorem encField_length_ge (w n : Nat) : w ≤ (encField w n).length := by
  rw [length_encField]; omega

theorem encField_exact_iff {w n : Nat} : (encField w n).length = w ↔ (1 ≤ w ∧ n < 2 ^ w) := by
  rw [length_encField]
  have := getBinary_length_pos n
  by_cases hw : 1 ≤ w
  · have := getBinary_length_le_iff n w hw; omega
  · omega

theorem encField_fits {w n : Nat} (hw : 1 ≤ w) (h : n < 2 ^ w) :
    (encField w n).length = w ∧ getId (encField w n) = n :=
  ⟨encField_exact_iff.mpr ⟨hw, h⟩, getId_encField w n⟩

theorem encField_overflow {w n : Nat} (h : ¬ n < 2 ^ w) : w < (encField w n).length :=
  Nat.lt_of_le_of_ne (encField_length_ge w n) fun e => h (encField_exact_iff.mp e.symm).2

/-- in a zero-width field even 0 takes one bit (`getBinary 0 = [false]`) -/
theorem encField_zero_width (n : Nat) : 0 < (encField 0 n).length :=
  Nat.pos_of_ne_zero fun e => absurd (encField_exact_iff.mp e).1 (by decide)

theorem leastBits_spec {n lo hi dflt k : Nat} (hlo : lo ≤ k) (hhi : k < hi) (hk : n ≤ 2 ^ k) :
    lo ≤ leastBits n lo hi dflt ∧ leastBits n lo hi dflt ≤ k ∧ n ≤ 2 ^ leastBits n lo hi dflt ∧
    ∀ j, lo ≤ j → j < leastBits n lo hi dflt → 2 ^ j < n := by
  unfold leastBits
  cases hf : (List.range' lo (hi - lo)).find? (fun b => decide (2 ^ b ≥ n)) with
  | some b =>
    obtain ⟨hp, hm, hmin⟩ := List.find?_range'_eq_some.mp hf
    simp only [decide_eq_true_eq, List.mem_range'_1, Bool.not_eq_true', decide_eq_false_iff_not,
      Nat.not_le] at hp hm hmin
    refine ⟨hm.1, Nat.le_of_not_lt fun hlt => ?_, hp, hmin⟩
    exact absurd (hmin k hlo hlt) (Nat.not_lt.mpr hk)
  | none =>
    have := List.find?_eq_none.mp hf k (List.mem_range'_1.mpr ⟨hlo, by omega⟩)
    exact absurd hk (by simpa using this)

theorem leastBits_default {n lo hi dflt : Nat} (h : ∀ k, lo ≤ k → k < hi → 2 ^ k < n) :
    leastBits n lo hi dflt = dflt := by
  unfold leastBits
  rw [List.find?_eq_none.mpr fun k hk => by
    have := List.mem_range'_1.mp hk
    simpa using h k this.1 (by omega)]

theorem neededBits_spec {n : Nat} (h1 : 1 ≤ n) (h2 : n ≤ 2 ^ 63) :
    1 ≤ neededBits n ∧ neededBits n ≤ 63 ∧ n ≤ 2 ^ neededBits n ∧ ∀ j, 1 ≤ j → j < neededBits n → 2 ^ j < n := by
  rw [neededBits, if_pos (show n > 0 from h1)]
  exact leastBits_spec (by decide) (by decide) h2

theorem fieldBits_spec (n : Nat) :
    1 ≤ fieldBits n ∧ fieldBits n ≤ 15 ∧ (n ≤ 2 ^ 15 → n ≤ 2 ^ fieldBits n) := by
  unfold fieldBits
  by_cases h : n ≤ 2 ^ 15
  · obtain ⟨h1, h2, h3, _⟩ := leastBits_spec (dflt := 1) (by decide : 1 ≤ 15) (by decide : 15 < 16) h
    exact ⟨h1, h2, fun _ => h3⟩
  · rw [leastBits_default fun k _ hk => Nat.lt_of_le_of_lt (Nat.pow_le_pow_right (by decide) (by omega))
      (Nat.not_le.mp h)]
    exact ⟨Nat.le_refl 1, by decide, fun h' => absurd h' h⟩

end BMV.Bits
