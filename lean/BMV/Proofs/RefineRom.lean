/-
  C01, `ro2rri`: one simulator step = two hardware clocks.  The first clock only presents the
  address (no architectural register moves), the second writes the ROM cell into the destination
  register and retires; after it the two worlds are related again and the flag is back down.
-/
import BMV.Proofs.Refine
import BMV.Proofs.RefinePipe
namespace BMV.Refine
open BMV BMV.Bits

theorem len_ro2rri (a : Arch) : a.instrLen "ro2rri" = a.opBits + (a.r + a.r) :=
  instrLen_of_layout a (fs := [.reg, .reg]) (by decide +kernel)

/-- Hypotheses under which an `ro2rri` instruction is compared: the property's "in-range
    operands" for this opcode are that the addressed cell exists (program or data) and that the
    ROM fits its address space. -/
structure RomHyp (a : Arch) (prog data : List Bits) (s : VmState) (h : RtlState) (w : Bits) : Prop where
  ws : a.wordSize = 0
  wlen : ∀ x ∈ prog ++ data, x.length = a.maxWord
  regsLen : s.regs.length = 2 ^ a.r
  rel : Rel s h
  ready : h.romReady = false
  fetch : prog[s.pc]? = some w
  decode : a.ops[getId (w.take a.opBits)]? = some "ro2rri"
  rsize : a.rsize ≤ 64
  fits : prog.length + data.length ≤ 2 ^ a.o
  inRom : ∀ loc, s.regs[Isa.field (w.drop a.opBits) a.r a.r]? = some loc → loc < prog.length + data.length
  noFall : s.pc + 1 < 2 ^ a.o

/-- the value both back-ends keep of a ROM word: its low `min Rsize W` bits -/
theorem rom_value (rw : Bits) (W rs : Nat) (hl : rw.length = W) :
    getId ((rw.drop (W - min rs W)).take (min rs W)) = if rs ≤ W then getId rw % 2 ^ rs else getId rw := by
  by_cases h : rs ≤ W
  · have hm : min rs W = rs := Nat.min_eq_left h
    rw [hm, if_pos h]
    have := slice_eq_extract rw (W - rs) rs (by omega)
    rw [this, hl]
    have : W - (W - rs) - rs = 0 := by omega
    simp [this]
  · have hm : min rs W = W := Nat.min_eq_right (by omega)
    rw [hm, if_neg h]
    simp [← hl]

theorem RomHyp.wordLen {a : Arch} {prog data : List Bits} {s : VmState} {h : RtlState} {w : Bits}
    (H : RomHyp a prog data s h w) : w.length = a.maxWord :=
  H.wlen w (List.mem_append_left _ (List.mem_of_getElem? H.fetch))

theorem RomHyp.arm {a : Arch} {prog data : List Bits} {s : VmState} {h : RtlState} {w : Bits}
    (H : RomHyp a prog data s h w) :
    Rtl.fetch (prog ++ data) h.pc = getId w ∧ Rtl.curOp a (getId w) = some "ro2rri" := by
  refine ⟨?_, (curOp_eq a H.wordLen).trans H.decode⟩
  rw [← H.rel.1]
  exact fetch_eq (by rw [List.getElem?_append_left (List.getElem?_eq_some_iff.mp H.fetch).1]; exact H.fetch)

section arm
variable {a : Arch} {prog data : List Bits} {x : RtlState} (q : PortsIn) {cur : Nat}
  (hf : Rtl.fetch (prog ++ data) x.pc = cur) (hcur : Rtl.curOp a cur = some "ro2rri")
include hf hcur

theorem cycleRom_present (hr : x.romReady = false) :
    Rtl.cycleRom a prog data x q =
      { x with romBus := x.regs.getD (Rtl.part cur a.maxWord (a.opBits + a.r) a.r) 0 % 2 ^ a.o,
               romReady := true,
               iRecv := (List.range a.n).map (Rtl.recvBlock a cur x q),
               oVal := (List.range a.m).map (Rtl.valBlock a cur x q) } := by
  unfold Rtl.cycleRom
  simp only [hf, Rtl.romArm, hcur, if_true, hr, Bool.false_eq_true, if_false]

theorem cycleRom_retire (hr : x.romReady = true) :
    Rtl.cycleRom a prog data x q =
      { x with pc := (x.pc + 1) % 2 ^ a.o,
               romReady := false,
               regs := x.regs.set (Rtl.part cur a.maxWord a.opBits a.r)
                 (if a.rsize ≤ a.maxWord then Rtl.fetch (prog ++ data) x.romBus % 2 ^ a.rsize
                  else Rtl.fetch (prog ++ data) x.romBus),
               iRecv := (List.range a.n).map (Rtl.recvBlock a cur x q),
               oVal := (List.range a.m).map (Rtl.valBlock a cur x q) } := by
  unfold Rtl.cycleRom
  simp only [hf, Rtl.romArm, hcur, if_true, hr]

theorem cycleRom_pipes (o : String) : (Rtl.cycleRom a prog data x q).getPipe o = x.getPipe o := by
  cases hr : x.romReady
  · rw [cycleRom_present q hf hcur hr]; rfl
  · rw [cycleRom_retire q hf hcur hr]; rfl

end arm

theorem refine_rom {a : Arch} {prog data : List Bits} {s : VmState} {h : RtlState} {w : Bits}
    (H : RomHyp a prog data s h w) (p1 p2 : PortsIn) :
    ∃ s', Isa.stepRom a prog data s = some s' ∧
      (Rtl.cycleRom a prog data h p1).pc = h.pc ∧
      (Rtl.cycleRom a prog data h p1).regs = h.regs ∧
      (Rtl.cycleRom a prog data h p1).auxo = h.auxo ∧
      Rel s' (Rtl.cycleRom a prog data (Rtl.cycleRom a prog data h p1) p2) ∧
      (Rtl.cycleRom a prog data (Rtl.cycleRom a prog data h p1) p2).romReady = false := by
  obtain ⟨rpc, rregs, rout⟩ := H.rel
  have hwl := H.wordLen
  obtain ⟨hf1, hcur⟩ := H.arm
  have hl := len_ro2rri a
  have hkd := field_agree H.ws hwl H.decode 0 a.r (by omega)
  have hks := field_agree H.ws hwl H.decode a.r a.r (by omega)
  rw [Nat.add_zero] at hkd
  have hkdlt : Isa.field (w.drop a.opBits) 0 a.r < s.regs.length := H.regsLen ▸ Isa.field_lt _ _ _
  -- the cell the source register addresses exists, in the program or the data
  obtain ⟨loc, hloc⟩ : ∃ loc, s.regs[Isa.field (w.drop a.opBits) a.r a.r]? = some loc :=
    ⟨_, List.getElem?_eq_getElem (H.regsLen ▸ Isa.field_lt _ _ _)⟩
  have hlocin := H.inRom loc hloc
  obtain ⟨rw, hrw⟩ : ∃ rw, (prog ++ data)[loc]? = some rw :=
    ⟨_, List.getElem?_eq_getElem (by simpa using hlocin)⟩
  have hrwl : rw.length = a.maxWord := H.wlen rw (List.mem_of_getElem? hrw)
  have hW : (prog.headD []).length = a.maxWord := by
    cases prog with
    | nil => exact absurd H.fetch (by simp)
    | cons x xs => exact H.wlen x (by simp)
  have hstep : Isa.stepRom a prog data s =
      some { Isa.runDeferred s with
             pc := s.pc + 1,
             regs := s.regs.set (Isa.field (w.drop a.opBits) 0 a.r)
               (getId ((rw.drop (a.maxWord - min a.rsize a.maxWord)).take (min a.rsize a.maxWord))) } := by
    rw [Isa.stepRom_eq H.fetch H.decode]
    unfold Isa.execRom
    simp only [if_true, Nat.not_lt.mpr H.rsize, if_false, (Isa.runDeferred_arch s).2.1, hloc, hrw, hW, hrwl,
      Nat.lt_irrefl, hkdlt, (Isa.runDeferred_arch s).1]
  -- the bus of the first clock addresses that cell in the second
  have hbus : h.regs.getD (Rtl.part (getId w) a.maxWord (a.opBits + a.r) a.r) 0 % 2 ^ a.o = loc := by
    rw [← hks, ← rregs, getD_of_getElem? hloc]
    exact Nat.mod_eq_of_lt (by have := H.fits; omega)
  have e1 := cycleRom_present p1 hf1 hcur H.ready
  rw [cycleRom_retire (x := Rtl.cycleRom a prog data h p1) p2 (by rw [e1]; exact hf1) hcur (by rw [e1]), e1]
  refine ⟨_, hstep, rfl, rfl, rfl, ⟨next_pc rpc H.noFall, ?_, rout⟩, rfl⟩
  show s.regs.set _ _ = h.regs.set _ _
  rw [hbus, fetch_eq hrw, ← rregs, ← hkd, rom_value rw a.maxWord a.rsize hrwl]

theorem cycleRom_eq_cycle (a : Arch) (prog data : List Bits) (h : RtlState) (p : PortsIn)
    (hpc : h.pc < prog.length)
    (hop : Rtl.curOp a (Rtl.fetch prog h.pc) ≠ some "ro2rri") :
    Rtl.cycleRom a prog data h p = Rtl.cycle a prog h p := by
  have hf : Rtl.fetch (prog ++ data) h.pc = Rtl.fetch prog h.pc := by
    unfold Rtl.fetch; rw [List.getElem?_append_left hpc]
  unfold Rtl.cycleRom
  simp only [hf, Rtl.romArm, hop, if_false]
  unfold Rtl.cycle
  simp only [hf]

theorem rom_eq_plain {a : Arch} {prog : List Bits} (data : List Bits) {s : VmState} {h : RtlState} (p : PortsIn)
    {w : Bits} {op : String} (hW : w.length = a.maxWord) (hr : Rel s h) (hf : prog[s.pc]? = some w)
    (hd : a.ops[getId (w.take a.opBits)]? = some op) (hne : op ≠ "ro2rri") :
    Isa.stepRom a prog data s = Isa.step a prog s ∧ Rtl.cycleRom a prog data h p = Rtl.cycle a prog h p := by
  constructor
  · rw [Isa.stepRom_eq hf hd, Isa.step_eq hf hd, Isa.execRom, if_neg hne]
  · apply cycleRom_eq_cycle
    · rw [← hr.1]; exact (List.getElem?_eq_some_iff.mp hf).1
    · rw [← hr.1, fetch_eq hf, curOp_eq a hW, hd]
      exact fun e => hne (Option.some.inj e)

theorem cycle_leaves_rom (a : Arch) (prog : List Bits) (h : RtlState) (p : PortsIn) :
    (Rtl.cycle a prog h p).romReady = h.romReady ∧ (Rtl.cycle a prog h p).romBus = h.romBus :=
  mainBlock_ind (P := fun m => m.romReady = h.romReady ∧ m.romBus = h.romBus) a _ h p
    (fun _ _ _ _ => ⟨rfl, rfl⟩) fun op q _ _ _ _ => (setPipe_arch h op q).2.2.2

theorem execRom_phase {a : Arch} {prog data : List Bits} {op : String} {body : Bits} {s s' : VmState}
    (h : Isa.execRom a prog data op body s = some s') (hnp : op ∉ Isa.pipeOps) : s'.phase = s.phase := by
  let P := fun o : Option VmState => ∀ t, o = some t → t.phase = s.phase
  have hn : P none := fun _ h => nomatch h
  suffices P (Isa.execRom a prog data op body s) from this s' h
  unfold Isa.execRom
  dsimp only
  refine ite_ind (ite_ind hn ?_) fun _ h => exec_phase h hnp
  cases s.regs[Isa.field body a.r a.r]? with
  | none => exact hn
  | some loc =>
    dsimp only
    cases (prog ++ data)[loc]? with
    | none => exact hn
    | some w => exact ite_ind hn (ite_ind (fun _ h => Option.some.inj h ▸ rfl) hn)

/-- a retired `ro2rri` leaves the pipeline relation as it was (no pipelined opcode is in flight
    while another opcode is being executed) -/
theorem rom_keeps_pipe {a : Arch} {prog data : List Bits} {s s' : VmState} {h : RtlState} {w : Bits}
    (H : RomHyp a prog data s h w) (hp : PipeRel a prog s h) (p1 p2 : PortsIn)
    (hs : Isa.stepRom a prog data s = some s') :
    PipeRel a prog s' (Rtl.cycleRom a prog data (Rtl.cycleRom a prog data h p1) p2) := by
  have hnp : "ro2rri" ∉ Isa.pipeOps := by decide
  rw [Isa.stepRom_eq H.fetch H.decode] at hs
  refine pipeRel_frame hp H.fetch H.decode hnp (execRom_phase (s := Isa.runDeferred s) hs hnp) fun o => ?_
  obtain ⟨hf1, hcur⟩ := H.arm
  have hpc1 : (Rtl.cycleRom a prog data h p1).pc = h.pc := by rw [cycleRom_present p1 hf1 hcur H.ready]
  rw [cycleRom_pipes p2 (hpc1 ▸ hf1) hcur, cycleRom_pipes p1 hf1 hcur]

end BMV.Refine
