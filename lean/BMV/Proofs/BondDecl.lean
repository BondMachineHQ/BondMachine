/-
  C02 helper: the declarations clause of the netlist model — no data net of `wire t` is an implicit
  1-bit net (`data_nets_declared'`).
-/
import BMV.Proofs.Bond
namespace BMV.Bond
open BMV.Topology

/-! ### declarations: every data net the netlist mentions is declared `rsize` bits wide -/

def DataDeclared (nl : Netlist) (rs : Nat) (b : Topology.Bond) : Prop :=
  ∃ d ∈ nl.decls, d.net = .data b ∧ d.width = rs

theorem mem_wire_decls {t : Topo} {rs : Nat} {d : Decl} :
    d ∈ (wire t rs).decls ↔ d ∈ portDecls t rs ∨ d ∈ unlinkedDecls t rs ∨ d ∈ outputDecls t rs := by
  simp only [wire, List.mem_append, or_assoc]

theorem decl_of_iout {t : Topo} (rs : Nat) {o : Topology.Bond} (ho : o ∈ t.iout) : DataDeclared (wire t rs) rs o := by
  obtain ⟨j, hj⟩ := List.mem_iff_getElem?.mp ho
  refine ⟨⟨.none, true, rs, .data o⟩, mem_wire_decls.mpr (.inr (.inr ?_)), rfl, rfl⟩
  exact List.mem_flatMap.mpr ⟨(o, j), List.mem_zipIdx_iff_getElem?.mpr hj, by simp⟩

theorem decl_of_unlinked {t : Topo} (rs : Nat) {s : Topology.Bond} (hs : (s, none) ∈ t.iin.zip t.links) :
    DataDeclared (wire t rs) rs s :=
  ⟨⟨.none, true, rs, .data s⟩, mem_wire_decls.mpr (.inr (.inl (List.mem_filterMap.mpr ⟨(s, none), hs, rfl⟩))),
    rfl, rfl⟩

theorem decl_of_extOut {t : Topo} (rs : Nat) {k : Nat} (hk : k < t.outputs) : DataDeclared (wire t rs) rs (extOut k) := by
  refine ⟨⟨.output, false, rs, .data (extOut k)⟩, mem_wire_decls.mpr (.inl (List.mem_append_right _ ?_)), rfl, rfl⟩
  exact List.mem_flatMap.mpr ⟨k, List.mem_range.mpr hk, by simp⟩

/-- every data net attached to an instance port or named in an assign of `wire t` is declared with
    the machine's register size (so no data net is an implicit 1-bit net) -/
theorem data_nets_declared' {t : Topo} (h : WF t) (rs : Nat) :
    (∀ i ∈ (wire t rs).insts, ∀ b, Net.data b ∈ i.conns → DataDeclared (wire t rs) rs b) ∧
    (∀ a ∈ (wire t rs).assigns, (∀ b, a.1 = .data b → DataDeclared (wire t rs) rs b) ∧
      (∀ b, a.2 = .id (.data b) → DataDeclared (wire t rs) rs b)) := by
  constructor
  · intro i hi b hb
    obtain ⟨p, nm, hp, rfl⟩ := mem_wire_insts.mp hi
    simp only [procInst, List.mem_append, List.mem_cons, List.mem_flatMap, List.mem_range] at hb
    rcases hb with (hb | ⟨e, he, hb⟩) | ⟨e, he, hb⟩
    · rcases hb with hb | hb | hb <;> cases hb
    · -- a processor input reads its driver's data net, or its own when it is unlinked
      have hmem : (⟨2, p, e⟩ : Topology.Bond) ∈ t.iin := mem_iin_proc h hp he
      rw [procInputConns_eq h hmem] at hb
      cases hd : driverOf t ⟨2, p, e⟩ with
      | none =>
        rw [hd] at hb
        simp only [triple, List.mem_cons, List.not_mem_nil, or_false] at hb
        rcases hb with hb | hb | hb <;> cases hb
        exact decl_of_unlinked rs (unlinked_of_driverOf_none h hmem hd)
      | some o =>
        rw [hd] at hb
        simp only [List.mem_cons, List.not_mem_nil, or_false] at hb
        rcases hb with hb | hb | hb <;> cases hb
        exact decl_of_iout rs (driverOf_mem h hmem hd)
    · simp only [triple, List.mem_cons, List.not_mem_nil, or_false] at hb
      rcases hb with hb | hb | hb <;> cases hb
      exact decl_of_iout rs ((h.iout_mem _).mpr (Or.inr ⟨rfl, nm, hp, he⟩))
  · intro a ha
    rcases mem_wire_assigns.mp ha with he | ⟨o, j, _, ha'⟩
    · obtain ⟨s, o, k, hs, hk1, hd, hk, rfl⟩ := (mem_extAssigns h).mp he
      obtain ⟨hs', hr⟩ := iin_ext h hs hk1
      constructor
      · intro b' hb
        rcases lineNet_lt2 hk s with ⟨_, e⟩ | ⟨_, e⟩ <;> rw [show lineNet k s = .data b' from hb] at e <;> cases e
        rw [hs']; exact decl_of_extOut rs hr
      · intro b' hb
        rcases lineNet_lt2 hk o with ⟨_, e⟩ | ⟨_, e⟩ <;>
          rw [show lineNet k o = .data b' from Rhs.id.inj hb] at e <;> cases e
        exact decl_of_iout rs (driverOf_mem h hs hd)
    · obtain ⟨h2, h1⟩ := mem_recvAssign.mp ha'
      constructor
      · intro b hb; rw [hb] at h1; cases h1
      · intro b hb
        unfold recvSpec at h2
        rw [hb] at h2
        split at h2 <;> simp at h2

end BMV.Bond
