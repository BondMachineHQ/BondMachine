/-
  Lemmas about BMV.Sched: permutation independence of folds, first match, sorting, membership and
  framed updates (generic), then what the concrete loops compute and the soundness of the table
  merge `Expect.coveredRows`.  Core only (List.Perm and its lemmas are in core).
-/
import BMV.SchedExpect
namespace BMV.Sched
open List

/-! ## folds -/

theorem foldl_perm_of_comm_on {α β : Type} {f : β → α → β} {l₁ l₂ : List α} (h : l₁ ~ l₂)
    (comm : ∀ x ∈ l₁, ∀ y ∈ l₁, ∀ z, f (f z x) y = f (f z y) x) (init : β) :
    walk f init l₁ = walk f init l₂ :=
  h.foldl_eq' comm init

/-- a fold whose step is right-commutative gives the same result for every permutation -/
theorem foldl_perm_of_comm {α β : Type} {f : β → α → β}
    (comm : ∀ z x y, f (f z x) y = f (f z y) x) {l₁ l₂ : List α} (h : l₁ ~ l₂) (init : β) :
    walk f init l₁ = walk f init l₂ :=
  foldl_perm_of_comm_on h (fun x _ y _ z => comm z x y) init

theorem walk_append_singleton {α β : Type} (f : α → β) (l : List α) (acc : List β) :
    walk (fun acc x => acc ++ [f x]) acc l = acc ++ l.map f := by
  induction l generalizing acc with
  | nil => simp [walk]
  | cons a l ih => simpa [walk] using ih (acc ++ [f a])

theorem walkE_perm {σ α : Type} {fails : α → Bool} {step : σ → α → σ} {l₁ l₂ : List α}
    (h : l₁ ~ l₂) (comm : ∀ x ∈ l₁, ∀ y ∈ l₁, ∀ z, step (step z x) y = step (step z y) x)
    (init : σ) : walkE fails step init l₁ = walkE fails step init l₂ := by
  unfold walkE
  apply h.foldl_eq'
  intro x hx y hy z
  cases z with
  | none => rfl
  | some s =>
    cases hfx : fails x <;> cases hfy : fails y <;> simp [stepE, hfx, hfy, comm x hx y hy s]

theorem walkE_eq_none_iff {σ α : Type} {fails : α → Bool} {step : σ → α → σ} (l : List α) (init : σ) :
    walkE fails step init l = none ↔ ∃ x ∈ l, fails x = true := by
  unfold walkE
  suffices H : ∀ (os : Option σ), (l.foldl (stepE fails step) os = none ↔
      (os = none ∨ ∃ x ∈ l, fails x = true)) by
    simpa using H (some init)
  induction l with
  | nil => intro os; simp
  | cons a l ih =>
    intro os
    simp only [foldl_cons, ih, mem_cons, exists_eq_or_imp]
    cases os with
    | none => simp [stepE]
    | some s => cases hfa : fails a <;> simp [stepE, hfa]

/-! ## first match -/

theorem firstMatch_cons_of_pos {α β : Type} {p : α → Bool} (g : α → β) {a : α} (l : List α)
    (ha : p a = true) : firstMatch p g (a :: l) = some (g a) := by
  simp [firstMatch, ha]

theorem importString_cons_of_acc {K I R : Type} {acc : K → I → Bool} (imp : K → I → R) {k : K}
    (l : List K) {x : I} (h : acc k x = true) : importString acc imp (k :: l) x = some (imp k x) :=
  firstMatch_cons_of_pos _ l h

/-- if all entries that satisfy `p` agree on `g`, "the first that satisfies p" is permutation
    independent (in particular when at most one entry satisfies `p`) -/
theorem first_match_unique {α β : Type} {p : α → Bool} {g : α → β} {l₁ l₂ : List α} (h : l₁ ~ l₂)
    (uniq : ∀ a ∈ l₁, ∀ b ∈ l₁, p a = true → p b = true → g a = g b) :
    firstMatch p g l₁ = firstMatch p g l₂ := by
  unfold firstMatch
  cases h₁ : l₁.find? p with
  | none => rw [find?_eq_none.mpr fun x hx => find?_eq_none.mp h₁ x (h.symm.subset hx)]
  | some a =>
    have ha := mem_of_find?_eq_some h₁
    cases h₂ : l₂.find? p with
    | none => exact absurd (find?_some h₁) (find?_eq_none.mp h₂ a (h.subset ha))
    | some b =>
      exact congrArg some
        (uniq a ha b (h.symm.subset (mem_of_find?_eq_some h₂)) (find?_some h₁) (find?_some h₂))

/-- converse witness: two overlapping matchers that disagree, tried in the two orders, give
    different results -/
theorem first_match_order_sensitive {α β : Type} {p : α → Bool} {g : α → β} {a b : α} (l : List α)
    (ha : p a = true) (hb : p b = true) (hg : g a ≠ g b) :
    (a :: b :: l) ~ (b :: a :: l) ∧ firstMatch p g (a :: b :: l) ≠ firstMatch p g (b :: a :: l) := by
  rw [firstMatch_cons_of_pos g _ ha, firstMatch_cons_of_pos g _ hb]
  exact ⟨Perm.swap b a l, fun e => hg (Option.some.inj e)⟩

/-! ## sorting -/

theorem insertSorted_perm {α : Type} (le : α → α → Bool) (a : α) (l : List α) :
    insertSorted le a l ~ a :: l := by
  induction l with
  | nil => exact Perm.refl _
  | cons b l ih =>
    unfold insertSorted
    split
    · exact Perm.refl _
    · exact (Perm.cons b ih).trans (Perm.swap a b l)

theorem isort_perm {α : Type} (le : α → α → Bool) (l : List α) : isort le l ~ l := by
  induction l with
  | nil => exact Perm.refl _
  | cons a l ih => exact (insertSorted_perm le a _).trans (Perm.cons a ih)

/-- hypotheses that make `le` a total order (decidable, Bool-valued as in the model) -/
structure TotalOrder {α : Type} (le : α → α → Bool) : Prop where
  total : ∀ a b, le a b = true ∨ le b a = true
  trans : ∀ a b c, le a b = true → le b c = true → le a c = true
  antisymm : ∀ a b, le a b = true → le b a = true → a = b

theorem insertSorted_sorted {α : Type} {le : α → α → Bool} (ho : TotalOrder le) (a : α) (l : List α)
    (hl : l.Pairwise (fun x y => le x y = true)) :
    (insertSorted le a l).Pairwise (fun x y => le x y = true) := by
  induction l with
  | nil => simp [insertSorted]
  | cons b l ih =>
    obtain ⟨hb, hl⟩ := pairwise_cons.mp hl
    unfold insertSorted
    split
    · rename_i hab
      exact pairwise_cons.mpr ⟨forall_mem_cons.mpr ⟨hab, fun c hc => ho.trans _ _ _ hab (hb c hc)⟩,
        pairwise_cons.mpr ⟨hb, hl⟩⟩
    · rename_i hab
      refine pairwise_cons.mpr ⟨fun c hc => ?_, ih hl⟩
      rcases mem_cons.mp ((insertSorted_perm le a l).subset hc) with rfl | hc
      · exact (ho.total c b).resolve_left hab
      · exact hb c hc

theorem isort_sorted {α : Type} {le : α → α → Bool} (ho : TotalOrder le) (l : List α) :
    (isort le l).Pairwise (fun x y => le x y = true) := by
  induction l with
  | nil => simp [isort]
  | cons a l ih => exact insertSorted_sorted ho a _ ih

theorem sort_perm {α : Type} {le : α → α → Bool} (ho : TotalOrder le) {l₁ l₂ : List α} (h : l₁ ~ l₂) :
    isort le l₁ = isort le l₂ := by
  apply Perm.eq_of_pairwise (le := fun x y => le x y = true)
  · intro a b _ _ hab hba; exact ho.antisymm a b hab hba
  · exact isort_sorted ho l₁
  · exact isort_sorted ho l₂
  · exact (isort_perm le l₁).trans (h.trans (isort_perm le l₂).symm)

/-! ## membership -/

theorem membership_perm {α : Type} {l₁ l₂ : List α} (h : l₁ ~ l₂) (x : α) : x ∈ l₁ ↔ x ∈ l₂ :=
  h.mem_iff

/-! ## framed updates -/

/-- inside its own footprint a framed step does not notice a step framed on a disjoint one -/
private theorem FrameStep.absorb {K V : Type} {fp₁ fp₂ : K → Bool} {f₁ f₂ : Store K V → Store K V}
    (h₁ : FrameStep fp₁ f₁) (h₂ : FrameStep fp₂ f₂)
    (disj : ∀ c, ¬(fp₁ c = true ∧ fp₂ c = true)) (s : Store K V) {c : K} (hc : fp₂ c = true) :
    f₂ (f₁ s) c = f₁ (f₂ s) c := by
  have out : ∀ d, fp₂ d = true → fp₁ d = false := fun d hd =>
    Bool.eq_false_iff.mpr fun h => disj d ⟨h, hd⟩
  rw [h₁.outside _ c (out c hc)]
  exact h₂.inside _ _ (fun d hd => h₁.outside s d (out d hd)) c hc

/-- agents with disjoint footprints commute -/
theorem par_step_frame {K V : Type} {fp₁ fp₂ : K → Bool} {f₁ f₂ : Store K V → Store K V}
    (h₁ : FrameStep fp₁ f₁) (h₂ : FrameStep fp₂ f₂)
    (disj : ∀ c, ¬(fp₁ c = true ∧ fp₂ c = true)) (s : Store K V) :
    f₂ (f₁ s) = f₁ (f₂ s) := by
  funext c
  cases hc₂ : fp₂ c with
  | true => exact h₁.absorb h₂ disj s hc₂
  | false =>
    cases hc₁ : fp₁ c with
    | true => exact (h₂.absorb h₁ (fun c h => disj c h.symm) s hc₁).symm
    | false => rw [h₂.outside _ c hc₂, h₁.outside _ c hc₁, h₁.outside _ c hc₁, h₂.outside _ c hc₂]

/-- iterations framed on pairwise disjoint footprints commute (an iteration commutes with itself,
    so the entries need not be distinct and no equality test on them is needed) -/
theorem framed_comm {E K V : Type} {fp : E → K → Bool} {stepf : E → Store K V → Store K V}
    (hframe : ∀ e, FrameStep (fp e) (stepf e)) {l : List E}
    (hdisj : l.Pairwise (fun a b => ∀ c, ¬(fp a c = true ∧ fp b c = true))) :
    ∀ x ∈ l, ∀ y ∈ l, ∀ z, stepf y (stepf x z) = stepf x (stepf y z) := by
  have h : l.Pairwise fun x y => ∀ z, stepf y (stepf x z) = stepf x (stepf y z) :=
    hdisj.imp fun d => par_step_frame (hframe _) (hframe _) d
  intro x hx y hy
  exact Pairwise.forall_of_forall_of_flip (fun _ _ _ => rfl) h (h.imp fun e z => (e z).symm) hx hy

/-- a walk whose iterations are framed on pairwise disjoint footprints is permutation independent,
    with or without a state-independent failure test (DESIGN 5.4 `par_step_frame` lifted to walks) -/
theorem framed_walkE_det {E K V : Type} (fp : E → K → Bool) (stepf : E → Store K V → Store K V)
    (fails : E → Bool) (hframe : ∀ e, FrameStep (fp e) (stepf e)) (l : List E)
    (hdisj : l.Pairwise (fun a b => ∀ c, ¬(fp a c = true ∧ fp b c = true)))
    {π₁ π₂ : List E} (h₁ : π₁ ~ l) (h₂ : π₂ ~ l) (s : Store K V) :
    walkE fails (fun s e => stepf e s) s π₁ = walkE fails (fun s e => stepf e s) s π₂ :=
  walkE_perm (h₁.trans h₂.symm)
    (fun x hx y hy => framed_comm hframe hdisj x (h₁.subset hx) y (h₁.subset hy)) s

theorem framed_walk_det {E K V : Type} (fp : E → K → Bool) (stepf : E → Store K V → Store K V)
    (hframe : ∀ e, FrameStep (fp e) (stepf e)) (l : List E)
    (hdisj : l.Pairwise (fun a b => ∀ c, ¬(fp a c = true ∧ fp b c = true)))
    {π₁ π₂ : List E} (h₁ : π₁ ~ l) (h₂ : π₂ ~ l) (s : Store K V) :
    walk (fun s e => stepf e s) s π₁ = walk (fun s e => stepf e s) s π₂ :=
  foldl_perm_of_comm_on (h₁.trans h₂.symm)
    (fun x hx y hy => framed_comm hframe hdisj x (h₁.subset hx) y (h₁.subset hy)) s

/-- the usual source of disjoint footprints: every iteration owns the cells that carry its key, and
    the walked entries (the entries of a Go map) have distinct keys -/
theorem keys_disjoint {E K J : Type} [DecidableEq J] (cell : K → J) (key : E → J) {l : List E}
    (hn : (l.map key).Nodup) :
    l.Pairwise fun a b => ∀ c, ¬(decide (cell c = key a) = true ∧ decide (cell c = key b) = true) := by
  rw [Nodup, pairwise_map] at hn
  exact hn.imp fun hab c hc => hab ((of_decide_eq_true hc.1).symm.trans (of_decide_eq_true hc.2))

/-! ### building framed steps -/

theorem FrameStep.refl {K V : Type} (fp : K → Bool) : FrameStep fp (fun s : Store K V => s) :=
  ⟨fun _ _ _ => rfl, fun _ _ h => h⟩

theorem FrameStep.comp {K V : Type} {fp : K → Bool} {f g : Store K V → Store K V}
    (hf : FrameStep fp f) (hg : FrameStep fp g) : FrameStep fp (fun s => g (f s)) :=
  ⟨fun s c hc => (hg.outside _ c hc).trans (hf.outside s c hc),
   fun s t hst => hg.inside _ _ (hf.inside s t hst)⟩

theorem FrameStep.foldl {K V P : Type} {fp : K → Bool} (step : Store K V → P → Store K V)
    (l : List P) (h : ∀ p ∈ l, FrameStep fp (fun s => step s p)) :
    FrameStep fp (fun s => l.foldl step s) := by
  induction l with
  | nil => exact .refl fp
  | cons p l ih => exact (h p mem_cons_self).comp (ih fun q hq => h q (mem_cons_of_mem _ hq))

theorem frame_set {K V : Type} [DecidableEq K] {fp : K → Bool} (k : K) (g : Store K V → V)
    (hk : fp k = true) (hg : ∀ s t, (∀ c, fp c = true → s c = t c) → g s = g t) :
    FrameStep fp (fun s => s.set k (g s)) := by
  constructor
  · intro s c hc
    exact if_neg fun e => by rw [e, hk] at hc; cases hc
  · intro s t hst c hc
    simp only [Store.set, hg s t hst, hst c hc]

theorem frame_set_own {K V : Type} [DecidableEq K] (k : K) (g : V → V) :
    FrameStep (fun c => decide (c = k)) (fun s : Store K V => s.set k (g (s k))) :=
  frame_set k (fun s => g (s k)) (decide_eq_true rfl)
    fun _ _ h => congrArg g (h k (decide_eq_true rfl))

/-! ## stores -/

theorem Store.set_comm {K V : Type} [DecidableEq K] (s : Store K V) {k₁ k₂ : K} (h : k₁ ≠ k₂) (v₁ v₂ : V) :
    (s.set k₁ v₁).set k₂ v₂ = (s.set k₂ v₂).set k₁ v₁ := by
  funext c
  by_cases h1 : c = k₁
  · subst h1; simp [Store.set, h]
  · by_cases h2 : c = k₂
    · subst h2; simp [Store.set, h1]
    · simp [Store.set, h1, h2]

theorem Store.set_idem_comm {K V : Type} [DecidableEq K] (s : Store K V) (k₁ k₂ : K) (v : V) :
    (s.set k₁ v).set k₂ v = (s.set k₂ v).set k₁ v := by
  by_cases h : k₁ = k₂
  · rw [h]
  · exact Store.set_comm s h v v

/-! ## the concrete loops and the table merge -/

/-- one iteration of `symbolTagger` writes only symbols prefixed by the ranged container -/
theorem Sect.tag_frame (s : Sect) :
    FrameStep (fun c : SymKey => decide ((c.1, c.2.1) = (s.kind, s.name))) s.tag := by
  unfold Sect.tag
  split
  · exact FrameStep.foldl _ _ fun p _ =>
      frame_set _ (fun _ => some p.2) (decide_eq_true rfl) fun _ _ _ => rfl
  · exact FrameStep.refl _

theorem cpdefLines_eq (π : List String) :
    cpdefLines π = π.map (fun n => "%meta cpdef " ++ n ++ " fragcollapse:" ++ n) :=
  walk_append_singleton _ π []

theorem altKeys_eq (π : List String) : altKeys π = π :=
  (walk_append_singleton _ π []).trans (map_id π)

theorem Expect.coveredRows_sound : ∀ (ss : List Site) (rs : List Row), Expect.coveredRows ss rs = true →
    ∀ s ∈ ss, ∃ r ∈ rs, r.key = s.key
  | [], _, _ => fun _ hs => nomatch hs
  | _ :: _, [], h => by simp [Expect.coveredRows] at h
  | s :: ss, r :: rs, h => by
    -- a row found further down the table is a row of the table
    have later {ss'} (h' : Expect.coveredRows ss' rs = true) : ∀ s' ∈ ss', ∃ r' ∈ r :: rs, r'.key = s'.key :=
      fun s' hs' => (Expect.coveredRows_sound ss' rs h' s' hs').imp fun _ hr => ⟨mem_cons_of_mem _ hr.1, hr.2⟩
    unfold Expect.coveredRows at h
    split at h
    · rename_i hm
      exact forall_mem_cons.mpr ⟨⟨r, mem_cons_self, beq_iff_eq.mp hm⟩, later h⟩
    · exact later h

end BMV.Sched
