/-
  Helper lemmas for C13 (BMV.Stack): the equations of `step`, the invariant, the abstraction function
  along a step, the acknowledge processes in closed form, and the notions the statements of C13 are
  phrased in (transfer counts, round-robin distance, traces).  Property theorems live in
  BMV/Props/C13.lean.
-/
import BMV.Stack
namespace BMV.Stack

variable {α : Type}

theorem sub_succ_add_one {a b : Nat} (h : b < a) : a - (b + 1) + 1 = a - b := by
  rw [Nat.sub_add_eq, Nat.sub_add_cancel (Nat.sub_pos_of_lt h)]

theorem mod_add_ne {a i j D : Nat} (hij : i < j) (hd : j - i < D) : (a + i) % D ≠ (a + j) % D := by
  intro h
  have h1 : (a + j - (a + i)) % D = 0 := Nat.sub_mod_eq_zero_of_mod_eq h.symm
  have h2 : a + j - (a + i) = j - i := by omega
  rw [h2, Nat.mod_eq_of_lt hd] at h1
  omega

/-- slots `(a+i) % D`, `i < n ≤ D`, are pairwise distinct -/
theorem mod_add_inj {a i j n D : Nat} (hn : n ≤ D) (hi : i < n) (hj : j < n)
    (h : (a + i) % D = (a + j) % D) : i = j := by
  rcases Nat.lt_trichotomy i j with hlt | heq | hgt
  · exact absurd h (mod_add_ne hlt (by omega))
  · exact heq
  · exact absurd h.symm (mod_add_ne hgt (by omega))

theorem Inv.sp_le {c : Cfg} {s : S α} (h : Inv c s) : s.sp ≤ c.D := h.1
theorem Inv.sendSM_lt {c : Cfg} {s : S α} (h : Inv c s) : s.sendSM < c.nS := h.2.1
theorem Inv.recvSM_lt {c : Cfg} {s : S α} (h : Inv c s) : s.recvSM < c.nR := h.2.2.1

theorem Inv.lifo {c : Cfg} {s : S α} (h : Inv c s) (hf : c.fifo = false) : s.rp = 0 ∧ s.wp = 0 := by
  have := h.2.2.2
  simpa only [hf, Bool.false_eq_true, if_false] using this

/-- FIFO ring relation with the `% D` resolved -/
theorem Inv.ring {c : Cfg} {s : S α} (h : Inv c s) (hf : c.fifo = true) :
    s.rp < c.D ∧ s.wp < c.D ∧ (s.rp + s.sp) % c.D = s.wp ∧
    ((s.rp + s.sp < c.D ∧ s.wp = s.rp + s.sp) ∨ (c.D ≤ s.rp + s.sp ∧ s.wp + c.D = s.rp + s.sp)) := by
  have h4 := h.2.2.2
  simp only [hf, if_true] at h4
  obtain ⟨h1, h2, h3⟩ := h4
  have hle := h.1
  refine ⟨h1, h2, h3, ?_⟩
  by_cases hlt : s.rp + s.sp < c.D
  · exact Or.inl ⟨hlt, h3.symm.trans (Nat.mod_eq_of_lt hlt)⟩
  · rw [Nat.mod_eq_sub_mod (Nat.le_of_not_lt hlt), Nat.mod_eq_of_lt (by omega)] at h3
    exact Or.inr ⟨Nat.le_of_not_lt hlt, by omega⟩

theorem inv_of_parts {c : Cfg} {s : S α} (h1 : s.sp ≤ c.D) (h2 : s.sendSM < c.nS) (h3 : s.recvSM < c.nR)
    (h4 : c.fifo = true → s.rp < c.D ∧ s.wp < c.D ∧ (s.rp + s.sp) % c.D = s.wp)
    (h5 : c.fifo = false → s.rp = 0 ∧ s.wp = 0) : Inv c s := by
  refine ⟨h1, h2, h3, ?_⟩
  cases hf : c.fifo
  · simpa using h5 hf
  · simpa using h4 hf

theorem next_lt {k n : Nat} (hn : 1 ≤ n) : next k n < n := by
  unfold next; split <;> omega

theorem anyLt_true {n : Nat} {f : Nat → Bool} {k : Nat} (hk : k < n) (hf : f k = true) : anyLt n f = true := by
  unfold anyLt
  exact List.any_eq_true.mpr ⟨k, List.mem_range.mpr hk, hf⟩

theorem empty_iff {s : S α} : s.empty = true ↔ s.sp = 0 := by simp [S.empty]
theorem empty_false_iff {s : S α} : s.empty = false ↔ 0 < s.sp := by
  simp [S.empty]; omega
theorem full_iff {c : Cfg} {s : S α} : s.full c = true ↔ s.sp = c.D := by simp [S.full]
theorem full_false_iff {c : Cfg} {s : S α} : s.full c = false ↔ s.sp ≠ c.D := by simp [S.full]

theorem rFire_eq_some {c : Cfg} {s : S α} {i : In α} {j : Nat} :
    rFire c s i = some j ↔
      i.reset = false ∧ rBranch c s i = true ∧ s.recvSM < c.nR ∧ i.rd s.recvSM = true ∧
      s.rAck s.recvSM = false ∧ s.recvSM = j := by
  simp [rFire, and_assoc]

theorem wFire_eq_some {c : Cfg} {s : S α} {i : In α} {k : Nat} :
    wFire c s i = some k ↔
      i.reset = false ∧ wBranch c s i = true ∧ s.sendSM < c.nS ∧ i.wr s.sendSM = true ∧
      s.sAck s.sendSM = false ∧ s.sendSM = k := by
  simp [wFire, and_assoc]

theorem rBranch_true {c : Cfg} {s : S α} {i : In α} :
    rBranch c s i = true ↔ anyLt c.nR i.rd = true ∧ s.empty = false := by
  simp [rBranch]

theorem wBranch_true {c : Cfg} {s : S α} {i : In α} :
    wBranch c s i = true ↔ rBranch c s i = false ∧ anyLt c.nS i.wr = true ∧ s.full c = false := by
  simp [wBranch, and_assoc]

theorem rFire_cases {c : Cfg} {s : S α} {i : In α} :
    rFire c s i = none ∨ rFire c s i = some s.recvSM := by
  unfold rFire; split <;> simp

theorem wFire_cases {c : Cfg} {s : S α} {i : In α} :
    wFire c s i = none ∨ wFire c s i = some s.sendSM := by
  unfold wFire; split <;> simp

theorem not_both_fire {c : Cfg} {s : S α} {i : In α} {j k : Nat}
    (hr : rFire c s i = some j) (hw : wFire c s i = some k) : False := by
  have h1 := (rFire_eq_some.mp hr).2.1
  have h2 := (wBranch_true.mp (wFire_eq_some.mp hw).2.1).1
  rw [h1] at h2; cases h2

theorem wFire_none_of_rFire {c : Cfg} {s : S α} {i : In α} {j : Nat}
    (hr : rFire c s i = some j) : wFire c s i = none := by
  rcases wFire_cases (c := c) (s := s) (i := i) with h | h
  · exact h
  · exact (not_both_fire hr h).elim

theorem rFire_none_of_wFire {c : Cfg} {s : S α} {i : In α} {k : Nat}
    (hw : wFire c s i = some k) : rFire c s i = none := by
  rcases rFire_cases (c := c) (s := s) (i := i) with h | h
  · exact h
  · exact (not_both_fire h hw).elim

section proj
variable (z : α) (c : Cfg) (s : S α) (i : In α)

theorem step_of_reset (h : i.reset = true) : step z c s i = reset z := by
  simp only [step, h, if_true]

theorem step_mem (h : i.reset = false) : (step z c s i).mem =
    if (wFire c s i).isSome then upd s.mem (if c.fifo then s.wp else s.sp) (i.wdata s.sendSM) else s.mem := by
  simp only [step, h, Bool.false_eq_true, if_false]

theorem step_rData (h : i.reset = false) : (step z c s i).rData =
    if (rFire c s i).isSome then upd s.rData s.recvSM (s.mem (if c.fifo then s.rp else s.sp - 1)) else s.rData := by
  simp only [step, h, Bool.false_eq_true, if_false]

theorem step_sp (h : i.reset = false) : (step z c s i).sp =
    if (rFire c s i).isSome then (readPtrs c s).1 else if (wFire c s i).isSome then (writePtrs c s).1 else s.sp := by
  simp only [step, h, Bool.false_eq_true, if_false]

theorem step_rp (h : i.reset = false) : (step z c s i).rp =
    if (rFire c s i).isSome then (readPtrs c s).2 else s.rp := by
  simp only [step, h, Bool.false_eq_true, if_false]

theorem step_wp (h : i.reset = false) : (step z c s i).wp =
    if (wFire c s i).isSome then (writePtrs c s).2 else s.wp := by
  simp only [step, h, Bool.false_eq_true, if_false]

theorem step_recvSM (h : i.reset = false) : (step z c s i).recvSM =
    if rBranch c s i && decide (s.recvSM < c.nR) then next s.recvSM c.nR else s.recvSM := by
  simp only [step, h, Bool.false_eq_true, if_false]

theorem step_sendSM (h : i.reset = false) : (step z c s i).sendSM =
    if wBranch c s i && decide (s.sendSM < c.nS) then next s.sendSM c.nS else s.sendSM := by
  simp only [step, h, Bool.false_eq_true, if_false]

theorem step_rAck (h : i.reset = false) (j : Nat) : (step z c s i).rAck j =
    if j < c.nR then
      if i.rd j && !s.rAck j && s.recvSM == j && !s.empty then true
      else if !i.rd j then false else s.rAck j
    else s.rAck j := by
  simp only [step, h, Bool.false_eq_true, if_false]

theorem step_sAck (h : i.reset = false) (k : Nat) : (step z c s i).sAck k =
    if k < c.nS then
      if !rBranch c s i && i.wr k && !s.sAck k && s.sendSM == k && !s.full c then true
      else if !i.wr k then false else s.sAck k
    else s.sAck k := by
  simp only [step, h, Bool.false_eq_true, if_false]

end proj


/-- the template recomputes the occupancy from the pointers; under the invariant the result is
    `sp - 1`, and the read pointer advances round the ring -/
theorem readPtrs_spec {c : Cfg} {s : S α} (h : Inv c s) (hne : 0 < s.sp) :
    (readPtrs c s).1 + 1 = s.sp ∧
    (readPtrs c s).2 = if c.fifo then (s.rp + 1) % c.D else s.rp := by
  cases hf : c.fifo
  · simp only [readPtrs, hf, Bool.false_eq_true, if_false, and_true]; exact Nat.sub_add_cancel hne
  · obtain ⟨h1, h2, -, h4⟩ := h.ring hf
    have hle := h.sp_le
    simp only [readPtrs, hf, if_true, beq_iff_eq]
    by_cases e1 : s.rp = c.D - 1
    · rw [if_pos e1, show s.rp + 1 = c.D by omega, Nat.mod_self]
      exact ⟨by show s.wp + 1 = s.sp; omega, rfl⟩
    · rw [if_neg e1, Nat.mod_eq_of_lt (by omega)]
      split
      · exact ⟨by show c.D - s.rp - 1 + s.wp + 1 = s.sp; omega, rfl⟩
      · exact ⟨by show s.wp - s.rp - 1 + 1 = s.sp; omega, rfl⟩

theorem writePtrs_spec {c : Cfg} {s : S α} (h : Inv c s) (hnf : s.sp < c.D) :
    (writePtrs c s).1 = s.sp + 1 ∧
    (writePtrs c s).2 = if c.fifo then (s.wp + 1) % c.D else s.wp := by
  cases hf : c.fifo
  · simp only [writePtrs, hf, Bool.false_eq_true, if_false, and_true]
  · obtain ⟨h1, h2, -, h4⟩ := h.ring hf
    simp only [writePtrs, hf, if_true, beq_iff_eq]
    by_cases e1 : s.wp = c.D - 1
    · rw [if_pos e1, show s.wp + 1 = c.D by omega, Nat.mod_self]
      exact ⟨by show c.D - s.rp = s.sp + 1; omega, rfl⟩
    · rw [if_neg e1, Nat.mod_eq_of_lt (by omega)]
      split
      · exact ⟨by show s.wp - s.rp + 1 = s.sp + 1; omega, rfl⟩
      · exact ⟨by show c.D - s.rp + s.wp + 1 = s.sp + 1; omega, rfl⟩

theorem rFire_sp_pos {c : Cfg} {s : S α} {i : In α} {j : Nat} (hr : rFire c s i = some j) : 0 < s.sp :=
  empty_false_iff.mp (rBranch_true.mp (rFire_eq_some.mp hr).2.1).2

theorem wFire_sp_ne {c : Cfg} {s : S α} {i : In α} {k : Nat} (hw : wFire c s i = some k) : s.sp ≠ c.D :=
  full_false_iff.mp (wBranch_true.mp (wFire_eq_some.mp hw).2.1).2.2

section kinds
variable (z : α) {c : Cfg} {s : S α} {i : In α}

theorem step_read (h : i.reset = false) {j : Nat} (hr : rFire c s i = some j) :
    (step z c s i).sp = (readPtrs c s).1 ∧ (step z c s i).rp = (readPtrs c s).2 ∧
    (step z c s i).wp = s.wp ∧ (step z c s i).mem = s.mem ∧
    (step z c s i).rData = upd s.rData j (s.mem (if c.fifo then s.rp else s.sp - 1)) := by
  have hw := wFire_none_of_rFire hr
  have hj := (rFire_eq_some.mp hr).2.2.2.2.2
  rw [step_sp z c s i h, step_rp z c s i h, step_wp z c s i h, step_mem z c s i h, step_rData z c s i h, hr, hw, hj]
  simp only [Option.isSome_some, Option.isSome_none, if_true, Bool.false_eq_true, if_false, and_self]

theorem step_write (h : i.reset = false) {k : Nat} (hw : wFire c s i = some k) :
    (step z c s i).sp = (writePtrs c s).1 ∧ (step z c s i).rp = s.rp ∧
    (step z c s i).wp = (writePtrs c s).2 ∧
    (step z c s i).mem = upd s.mem (if c.fifo then s.wp else s.sp) (i.wdata k) ∧
    (step z c s i).rData = s.rData := by
  have hr := rFire_none_of_wFire hw
  have hk := (wFire_eq_some.mp hw).2.2.2.2.2
  rw [step_sp z c s i h, step_rp z c s i h, step_wp z c s i h, step_mem z c s i h, step_rData z c s i h, hr, hw, hk]
  simp only [Option.isSome_some, Option.isSome_none, if_true, Bool.false_eq_true, if_false, and_self]

theorem step_idle (h : i.reset = false) (hr : rFire c s i = none) (hw : wFire c s i = none) :
    (step z c s i).sp = s.sp ∧ (step z c s i).rp = s.rp ∧ (step z c s i).wp = s.wp ∧
    (step z c s i).mem = s.mem ∧ (step z c s i).rData = s.rData := by
  rw [step_sp z c s i h, step_rp z c s i h, step_wp z c s i h, step_mem z c s i h, step_rData z c s i h, hr, hw]
  simp only [Option.isSome_none, Bool.false_eq_true, if_false, and_self]

theorem step_sendSM_lt (hc : c.WF) (hs : s.sendSM < c.nS) : (step z c s i).sendSM < c.nS := by
  cases h : i.reset
  · rw [step_sendSM z c s i h]; split
    · exact next_lt hc.2.1
    · exact hs
  · rw [step_of_reset z c s i h]; exact hc.2.1

theorem step_recvSM_lt (hc : c.WF) (hs : s.recvSM < c.nR) : (step z c s i).recvSM < c.nR := by
  cases h : i.reset
  · rw [step_recvSM z c s i h]; split
    · exact next_lt hc.2.2
    · exact hs
  · rw [step_of_reset z c s i h]; exact hc.2.2

end kinds

theorem inv_reset' (z : α) {c : Cfg} (hc : c.WF) : Inv c (reset z) := by
  refine inv_of_parts (Nat.zero_le _) hc.2.1 hc.2.2 (fun _ => ⟨hc.1, hc.1, ?_⟩) (fun _ => ⟨rfl, rfl⟩)
  show (0 + 0) % c.D = 0
  simp

theorem inv_step' (z : α) {c : Cfg} {s : S α} (i : In α) (hc : c.WF) (h : Inv c s) :
    Inv c (step z c s i) := by
  cases hres : i.reset
  case true => rw [step_of_reset z c s i hres]; exact inv_reset' z hc
  have hS := step_sendSM_lt z (i := i) hc h.sendSM_lt
  have hR := step_recvSM_lt z (i := i) hc h.recvSM_lt
  rcases rFire_cases (c := c) (s := s) (i := i) with hr | hr
  · rcases wFire_cases (c := c) (s := s) (i := i) with hw | hw
    · obtain ⟨e1, e2, e3, -, -⟩ := step_idle z hres hr hw
      refine inv_of_parts (by rw [e1]; exact h.sp_le) hS hR ?_ ?_
      · intro hf; rw [e1, e2, e3]; obtain ⟨a, b, d, -⟩ := h.ring hf; exact ⟨a, b, d⟩
      · intro hf; rw [e2, e3]; exact h.lifo hf
    · -- write: `(rp + (sp + 1)) % D = ((rp + sp) % D + 1) % D`
      have hlt : s.sp < c.D := Nat.lt_of_le_of_ne h.sp_le (wFire_sp_ne hw)
      obtain ⟨e1, e2, e3, -, -⟩ := step_write z hres hw
      obtain ⟨p1, p2⟩ := writePtrs_spec h hlt
      rw [p1] at e1; rw [p2] at e3
      refine inv_of_parts (by rw [e1]; exact hlt) hS hR ?_ ?_
      · intro hf
        obtain ⟨a, -, d, -⟩ := h.ring hf
        rw [e1, e2, e3, if_pos hf, ← d, Nat.mod_add_mod]
        exact ⟨a, Nat.mod_lt _ hc.1, rfl⟩
      · intro hf; rw [e2, e3, if_neg (by rw [hf]; exact Bool.false_ne_true)]; exact h.lifo hf
  · -- read: `((rp + 1) % D + (sp - 1)) % D = (rp + sp) % D`
    have hpos := rFire_sp_pos hr
    obtain ⟨e1, e2, e3, -, -⟩ := step_read z hres hr
    obtain ⟨p1, p2⟩ := readPtrs_spec h hpos
    rw [p2] at e2
    refine inv_of_parts (by rw [e1]; exact Nat.le_of_succ_le (p1 ▸ h.sp_le :)) hS hR ?_ ?_
    · intro hf
      obtain ⟨-, b, d, -⟩ := h.ring hf
      rw [e1, e2, e3, if_pos hf, Nat.mod_add_mod, Nat.add_right_comm, Nat.add_assoc, p1]
      exact ⟨Nat.mod_lt _ hc.1, b, d⟩
    · intro hf; rw [e2, e3, if_neg (by rw [hf]; exact Bool.false_ne_true)]; exact h.lifo hf


theorem map_range_succ_cons {β : Type} (f : Nat → β) (n : Nat) :
    (List.range (n + 1)).map f = f 0 :: (List.range n).map (fun i => f (i + 1)) := by
  rw [List.range_succ_eq_map, List.map_cons, List.map_map]; rfl

theorem map_range_succ_snoc {β : Type} (f : Nat → β) (n : Nat) :
    (List.range (n + 1)).map f = (List.range n).map f ++ [f n] := by
  rw [List.range_succ, List.map_append, List.map_singleton]

theorem upd_same {β : Type} (f : Nat → β) (k : Nat) (v : β) : upd f k v k = v := by simp [upd]
theorem upd_ne {β : Type} (f : Nat → β) {k j : Nat} (v : β) (h : j ≠ k) : upd f k v j = f j := by
  simp [upd, h]

theorem abs_write (z : α) {c : Cfg} {s : S α} {i : In α} {k : Nat} (h : Inv c s)
    (hres : i.reset = false) (hw : wFire c s i = some k) :
    abs c (step z c s i) = abs c s ++ [i.wdata k] := by
  have hlt : s.sp < c.D := Nat.lt_of_le_of_ne h.sp_le (wFire_sp_ne hw)
  obtain ⟨e1, e2, -, e4, -⟩ := step_write z hres hw
  rw [(writePtrs_spec h hlt).1] at e1
  unfold abs
  rw [e1, e2, e4, map_range_succ_snoc]
  congr 1
  · apply List.map_congr_left
    intro x hx
    have hx' : x < s.sp := List.mem_range.mp hx
    apply upd_ne
    cases hf : c.fifo
    · simp only [Bool.false_eq_true, if_false]; omega
    · simp only [if_true]
      rw [← (h.ring hf).2.2.1]
      exact mod_add_ne hx' (by omega)
  · congr 1
    cases hf : c.fifo
    · simp only [Bool.false_eq_true, if_false]; exact upd_same _ _ _
    · simp only [if_true]; rw [(h.ring hf).2.2.1]; exact upd_same _ _ _

theorem abs_read_fifo (z : α) {c : Cfg} {s : S α} {i : In α} {j : Nat} (h : Inv c s) (hf : c.fifo = true)
    (hres : i.reset = false) (hr : rFire c s i = some j) :
    abs c s = (step z c s i).rData j :: abs c (step z c s i) := by
  have hpos := rFire_sp_pos hr
  obtain ⟨e1, e2, -, e4, e5⟩ := step_read z hres hr
  obtain ⟨p1, p2⟩ := readPtrs_spec h hpos
  obtain ⟨a, -, -, -⟩ := h.ring hf
  rw [p2] at e2
  simp only [hf, if_true] at e2 e5
  have hn : s.sp = (step z c s i).sp + 1 := by rw [e1]; exact p1.symm
  unfold abs
  rw [hn, map_range_succ_cons, e5, upd_same, e4, e2]
  simp only [hf, if_true, Nat.add_zero, Nat.mod_eq_of_lt a]
  congr 1
  apply List.map_congr_left
  intro x _
  rw [Nat.mod_add_mod, Nat.add_assoc, Nat.add_comm x 1]

theorem abs_read_lifo (z : α) {c : Cfg} {s : S α} {i : In α} {j : Nat} (h : Inv c s) (hf : c.fifo = false)
    (hres : i.reset = false) (hr : rFire c s i = some j) :
    abs c s = abs c (step z c s i) ++ [(step z c s i).rData j] := by
  have hpos := rFire_sp_pos hr
  obtain ⟨e1, -, -, e4, e5⟩ := step_read z hres hr
  obtain ⟨p1, -⟩ := readPtrs_spec h hpos
  simp only [hf, Bool.false_eq_true, if_false] at e5
  have hn : s.sp = (step z c s i).sp + 1 := by rw [e1]; exact p1.symm
  unfold abs
  rw [e5, upd_same, e4]
  conv => lhs; rw [hn, map_range_succ_snoc]
  simp only [hf, Bool.false_eq_true, if_false]
  rw [hn, Nat.add_sub_cancel]

theorem abs_idle (z : α) {c : Cfg} {s : S α} {i : In α}
    (hres : i.reset = false) (hr : rFire c s i = none) (hw : wFire c s i = none) :
    abs c (step z c s i) = abs c s := by
  obtain ⟨e1, e2, -, e4, -⟩ := step_idle z hres hr hw
  unfold abs; rw [e1, e2, e4]

theorem abs_reset (z : α) (c : Cfg) : abs c (reset z) = [] := rfl


theorem sAck_cond_iff {c : Cfg} {s : S α} {i : In α} {k : Nat} (hres : i.reset = false) (hk : k < c.nS) :
    (!rBranch c s i && i.wr k && !s.sAck k && s.sendSM == k && !s.full c) = true ↔ wFire c s i = some k := by
  rw [wFire_eq_some, wBranch_true]
  simp only [Bool.and_eq_true, Bool.not_eq_true', beq_iff_eq]
  constructor
  · rintro ⟨⟨⟨⟨a, b⟩, d⟩, e⟩, f⟩
    subst e
    exact ⟨hres, ⟨a, anyLt_true hk b, f⟩, hk, b, d, rfl⟩
  · rintro ⟨-, ⟨a, -, f⟩, -, b, d, e⟩
    subst e
    exact ⟨⟨⟨⟨a, b⟩, d⟩, rfl⟩, f⟩

theorem rAck_cond_iff {c : Cfg} {s : S α} {i : In α} {j : Nat} (hres : i.reset = false) (hj : j < c.nR) :
    (i.rd j && !s.rAck j && s.recvSM == j && !s.empty) = true ↔ rFire c s i = some j := by
  rw [rFire_eq_some, rBranch_true]
  simp only [Bool.and_eq_true, Bool.not_eq_true', beq_iff_eq]
  constructor
  · rintro ⟨⟨⟨b, d⟩, e⟩, f⟩
    subst e
    exact ⟨hres, ⟨anyLt_true hj b, f⟩, hj, b, d, rfl⟩
  · rintro ⟨-, ⟨-, f⟩, -, b, d, e⟩
    subst e
    exact ⟨⟨⟨b, d⟩, rfl⟩, f⟩

/-- the write-acknowledge process in closed form: after the edge the Ack is up iff the sender
    transfers in this cycle, or the Ack was up and the request stays -/
theorem step_sAck_eq (z : α) {c : Cfg} {s : S α} {i : In α} {k : Nat} (hres : i.reset = false)
    (hk : k < c.nS) :
    (step z c s i).sAck k = if wFire c s i = some k then true else (i.wr k && s.sAck k) := by
  rw [step_sAck z c s i hres, if_pos hk]
  by_cases e : wFire c s i = some k
  · rw [if_pos e, if_pos ((sAck_cond_iff hres hk).mpr e)]
  · rw [if_neg e, if_neg (mt (sAck_cond_iff hres hk).mp e)]
    cases i.wr k <;> rfl

theorem step_rAck_eq (z : α) {c : Cfg} {s : S α} {i : In α} {j : Nat} (hres : i.reset = false)
    (hj : j < c.nR) :
    (step z c s i).rAck j = if rFire c s i = some j then true else (i.rd j && s.rAck j) := by
  rw [step_rAck z c s i hres, if_pos hj]
  by_cases e : rFire c s i = some j
  · rw [if_pos e, if_pos ((rAck_cond_iff hres hj).mpr e)]
  · rw [if_neg e, if_neg (mt (rAck_cond_iff hres hj).mp e)]
    cases i.rd j <;> rfl

/-- number of cycles of the history `is` (from state `s`) in which sender `k` transfers -/
def wCount (z : α) (c : Cfg) (k : Nat) : S α → List (In α) → Nat
  | _, [] => 0
  | s, i :: is => (if wFire c s i = some k then 1 else 0) + wCount z c k (step z c s i) is

/-- number of cycles of the history `is` (from state `s`) in which receiver `j` transfers -/
def rCount (z : α) (c : Cfg) (j : Nat) : S α → List (In α) → Nat
  | _, [] => 0
  | s, i :: is => (if rFire c s i = some j then 1 else 0) + rCount z c j (step z c s i) is

/-- while the request stays up sender `k` transfers at most once, and not at all if it is already
    acknowledged: a transfer needs the Ack down and raises it, and the raised Ack is held -/
theorem wCount_le (z : α) (c : Cfg) (k : Nat) (is : List (In α)) (s : S α)
    (hreq : ∀ i ∈ is, i.reset = false ∧ i.wr k = true) :
    wCount z c k s is ≤ if s.sAck k then 0 else 1 := by
  induction is generalizing s with
  | nil => exact Nat.zero_le _
  | cons i is ih =>
    obtain ⟨h1, h2⟩ := hreq i List.mem_cons_self
    have ih := ih (step z c s i) fun x hx => hreq x (List.mem_cons_of_mem _ hx)
    by_cases e : wFire c s i = some k
    · obtain ⟨-, -, hk, -, ha, rfl⟩ := wFire_eq_some.mp e
      rw [step_sAck_eq z h1 hk, if_pos e, if_pos rfl] at ih
      rw [wCount, if_pos e, ha, Nat.le_zero.mp ih]
      exact Nat.le_refl 1
    · rw [wCount, if_neg e, Nat.zero_add]
      cases ha : s.sAck k
      · exact Nat.le_trans ih (by split <;> decide)
      · by_cases hk : k < c.nS
        · rwa [step_sAck_eq z h1 hk, if_neg e, h2, ha] at ih
        · rwa [step_sAck z c s i h1, if_neg hk, ha] at ih

theorem rCount_le (z : α) (c : Cfg) (j : Nat) (is : List (In α)) (s : S α)
    (hreq : ∀ i ∈ is, i.reset = false ∧ i.rd j = true) :
    rCount z c j s is ≤ if s.rAck j then 0 else 1 := by
  induction is generalizing s with
  | nil => exact Nat.zero_le _
  | cons i is ih =>
    obtain ⟨h1, h2⟩ := hreq i List.mem_cons_self
    have ih := ih (step z c s i) fun x hx => hreq x (List.mem_cons_of_mem _ hx)
    by_cases e : rFire c s i = some j
    · obtain ⟨-, -, hj, -, ha, rfl⟩ := rFire_eq_some.mp e
      rw [step_rAck_eq z h1 hj, if_pos e, if_pos rfl] at ih
      rw [rCount, if_pos e, ha, Nat.le_zero.mp ih]
      exact Nat.le_refl 1
    · rw [rCount, if_neg e, Nat.zero_add]
      cases ha : s.rAck j
      · exact Nat.le_trans ih (by split <;> decide)
      · by_cases hj : j < c.nR
        · rwa [step_rAck_eq z h1 hj, if_neg e, h2, ha] at ih
        · rwa [step_rAck z c s i h1, if_neg hj, ha] at ih

theorem le_two_pow_neededBits {n : Nat} (hn : 1 ≤ n) : n ≤ 2 ^ neededBits n := by
  unfold neededBits
  rw [if_neg (by omega)]
  cases hfind : (List.range (n + 1)).find? (fun b => decide (1 ≤ b) && decide (n ≤ 2 ^ b)) with
  | some b =>
    have := List.find?_some hfind
    simp only [Bool.and_eq_true, decide_eq_true_eq] at this
    exact this.2
  | none =>
    have h := List.find?_eq_none.mp hfind n (List.mem_range.mpr (Nat.lt_succ_self n))
    simp only [Bool.and_eq_true, decide_eq_true_eq, not_and] at h
    exact absurd (Nat.le_of_lt Nat.lt_two_pow_self) (h hn)

/-- number of rotations of a mod-`n` pointer from `r` to `k` -/
def dist (n r k : Nat) : Nat := if r ≤ k then k - r else k + n - r

theorem dist_lt {n r k : Nat} (hr : r < n) (hk : k < n) : dist n r k < n := by
  unfold dist; split <;> omega

theorem dist_next {n r k : Nat} (hr : r < n) (hk : k < n) (hne : r ≠ k) :
    dist n (next r n) k + 1 = dist n r k := by
  unfold dist next
  by_cases h1 : r < n - 1
  · rw [if_pos h1]
    by_cases h2 : r ≤ k
    · have hlt : r < k := Nat.lt_of_le_of_ne h2 hne
      rw [if_pos h2, if_pos (show r + 1 ≤ k from hlt), sub_succ_add_one hlt]
    · rw [if_neg h2, if_neg (fun h => h2 (Nat.le_of_succ_le h)),
        sub_succ_add_one (Nat.lt_of_lt_of_le hr (Nat.le_add_left n k))]
  · -- `r` is the last position: the pointer wraps to 0, and `k` lies below `r`
    obtain rfl : n = r + 1 := by omega
    rw [if_neg h1, if_pos (Nat.zero_le k), if_neg (by omega), Nat.sub_zero, ← Nat.add_assoc,
      Nat.add_right_comm, Nat.add_sub_cancel]

theorem dist_self (n k : Nat) : dist n k k = 0 := by simp [dist]

/-- state after `t` clock edges on the input stream `inp`, starting from `s` -/
def stateAt (z : α) (c : Cfg) (s : S α) (inp : Nat → In α) : Nat → S α
  | 0 => s
  | t + 1 => step z c (stateAt z c s inp t) (inp t)

/-- a pending write can be served this cycle: no read takes the cycle and the store is not full -/
def wEnabled (c : Cfg) (s : S α) (i : In α) : Bool := !rBranch c s i && !s.full c

/-- number of write-enabled cycles among the first `T` -/
def enabledCount (z : α) (c : Cfg) (s : S α) (inp : Nat → In α) : Nat → Nat
  | 0 => 0
  | T + 1 => enabledCount z c s inp T + (if wEnabled c (stateAt z c s inp T) (inp T) then 1 else 0)

theorem run_append (z : α) (c : Cfg) (s : S α) (is js : List (In α)) :
    run z c s (is ++ js) = run z c (run z c s is) js := by
  induction is generalizing s with
  | nil => rfl
  | cons i is ih => exact ih (step z c s i)

theorem stateAt_eq_run (z : α) (c : Cfg) (s : S α) (inp : Nat → In α) (t : Nat) :
    stateAt z c s inp t = run z c s ((List.range t).map inp) := by
  induction t with
  | zero => rfl
  | succ t ih => rw [List.range_succ, List.map_append, run_append, ← ih]; rfl

theorem inv_run' (z : α) {c : Cfg} (hc : c.WF) (is : List (In α)) {s : S α} (h : Inv c s) :
    Inv c (run z c s is) := by
  induction is generalizing s with
  | nil => exact h
  | cons i is ih => exact ih (inv_step' z i hc h)

theorem inv_stateAt (z : α) {c : Cfg} (hc : c.WF) {s : S α} (h : Inv c s) (inp : Nat → In α) (t : Nat) :
    Inv c (stateAt z c s inp t) := by
  rw [stateAt_eq_run]; exact inv_run' z hc _ h

/-! ### liveness: one cycle without service moves the pointer towards the waiting agent -/

theorem read_wait_step (z : α) {c : Cfg} (hc : c.WF) {s : S α} {i : In α} {j : Nat} (hj : j < c.nR)
    (hsm : s.recvSM < c.nR) (ha : s.rAck j = false) (hres : i.reset = false) (hrd : i.rd j = true)
    (hne : s.empty = false) (hnf : rFire c s i ≠ some j) :
    (step z c s i).recvSM < c.nR ∧ (step z c s i).rAck j = false ∧
    dist c.nR (step z c s i).recvSM j + 1 = dist c.nR s.recvSM j := by
  have hrb : rBranch c s i = true := rBranch_true.mpr ⟨anyLt_true hj hrd, hne⟩
  have hsmne : s.recvSM ≠ j := by
    intro e; apply hnf; rw [rFire_eq_some]; subst e
    exact ⟨hres, hrb, hsm, hrd, ha, rfl⟩
  refine ⟨step_recvSM_lt z hc hsm, ?_, ?_⟩
  · rw [step_rAck_eq z hres hj, if_neg hnf, ha, Bool.and_false]
  · rw [step_recvSM z c s i hres]
    simp only [hrb, hsm, decide_true, Bool.and_self, if_true]
    exact dist_next hsm hj hsmne

theorem write_wait_step (z : α) {c : Cfg} (hc : c.WF) {s : S α} {i : In α} {k : Nat} (hk : k < c.nS)
    (hsm : s.sendSM < c.nS) (ha : s.sAck k = false) (hres : i.reset = false) (hwr : i.wr k = true)
    (hnf : wFire c s i ≠ some k) :
    (step z c s i).sendSM < c.nS ∧ (step z c s i).sAck k = false ∧
    dist c.nS (step z c s i).sendSM k + (if wEnabled c s i then 1 else 0) = dist c.nS s.sendSM k := by
  refine ⟨step_sendSM_lt z hc hsm, ?_, ?_⟩
  · rw [step_sAck_eq z hres hk, if_neg hnf, ha, Bool.and_false]
  · rw [step_sendSM z c s i hres]
    cases hen : wEnabled c s i
    · have hwb : wBranch c s i = false := by
        cases hwb : wBranch c s i
        · rfl
        · obtain ⟨a, -, b⟩ := wBranch_true.mp hwb
          simp [wEnabled, a, b] at hen
      simp only [hwb, Bool.false_and, Bool.false_eq_true, if_false, Nat.add_zero]
    · simp only [wEnabled, Bool.and_eq_true, Bool.not_eq_true'] at hen
      have hwb : wBranch c s i = true := wBranch_true.mpr ⟨hen.1, anyLt_true hk hwr, hen.2⟩
      have hsmne : s.sendSM ≠ k := by
        intro e; apply hnf; rw [wFire_eq_some]; subst e
        exact ⟨hres, hwb, hsm, hwr, ha, rfl⟩
      simp only [hwb, hsm, decide_true, Bool.and_self, if_true]
      exact dist_next hsm hk hsmne

theorem read_wait_trace (z : α) {c : Cfg} (hc : c.WF) {s : S α} (inp : Nat → In α) {j : Nat} (hj : j < c.nR)
    (hsm : s.recvSM < c.nR) (ha : s.rAck j = false) (T : Nat)
    (hreq : ∀ t < T, (inp t).reset = false ∧ (inp t).rd j = true ∧ (stateAt z c s inp t).empty = false)
    (hnf : ∀ t < T, rFire c (stateAt z c s inp t) (inp t) ≠ some j) :
    (stateAt z c s inp T).recvSM < c.nR ∧ (stateAt z c s inp T).rAck j = false ∧
    dist c.nR (stateAt z c s inp T).recvSM j + T = dist c.nR s.recvSM j := by
  induction T with
  | zero => exact ⟨hsm, ha, rfl⟩
  | succ T ih =>
    obtain ⟨a, b, d⟩ := ih (fun t ht => hreq t (Nat.lt_succ_of_lt ht)) (fun t ht => hnf t (Nat.lt_succ_of_lt ht))
    obtain ⟨r1, r2, r3⟩ := hreq T (Nat.lt_succ_self T)
    obtain ⟨a', b', d'⟩ := read_wait_step z hc hj a b r1 r2 r3 (hnf T (Nat.lt_succ_self T))
    refine ⟨a', b', ?_⟩
    show dist c.nR (step z c (stateAt z c s inp T) (inp T)).recvSM j + (T + 1) = _
    omega

theorem write_wait_trace (z : α) {c : Cfg} (hc : c.WF) {s : S α} (inp : Nat → In α) {k : Nat} (hk : k < c.nS)
    (hsm : s.sendSM < c.nS) (ha : s.sAck k = false) (T : Nat)
    (hreq : ∀ t < T, (inp t).reset = false ∧ (inp t).wr k = true)
    (hnf : ∀ t < T, wFire c (stateAt z c s inp t) (inp t) ≠ some k) :
    (stateAt z c s inp T).sendSM < c.nS ∧ (stateAt z c s inp T).sAck k = false ∧
    dist c.nS (stateAt z c s inp T).sendSM k + enabledCount z c s inp T = dist c.nS s.sendSM k := by
  induction T with
  | zero => exact ⟨hsm, ha, rfl⟩
  | succ T ih =>
    obtain ⟨a, b, d⟩ := ih (fun t ht => hreq t (Nat.lt_succ_of_lt ht)) (fun t ht => hnf t (Nat.lt_succ_of_lt ht))
    obtain ⟨r1, r2⟩ := hreq T (Nat.lt_succ_self T)
    obtain ⟨a', b', d'⟩ := write_wait_step z hc hk a b r1 r2 (hnf T (Nat.lt_succ_self T))
    refine ⟨a', b', ?_⟩
    show dist c.nS (step z c (stateAt z c s inp T) (inp T)).sendSM k +
      (enabledCount z c s inp T + (if wEnabled c (stateAt z c s inp T) (inp T) then 1 else 0)) = _
    omega

theorem enabledCount_all (z : α) (c : Cfg) (s : S α) (inp : Nat → In α) (T : Nat)
    (h : ∀ t < T, wEnabled c (stateAt z c s inp t) (inp t) = true) : enabledCount z c s inp T = T := by
  induction T with
  | zero => rfl
  | succ T ih =>
    simp only [enabledCount, h T (Nat.lt_succ_self T), if_true, ih (fun t ht => h t (Nat.lt_succ_of_lt ht))]

theorem enabledCount_mono (z : α) (c : Cfg) (s : S α) (inp : Nat → In α) {T T' : Nat} (h : T ≤ T') :
    enabledCount z c s inp T ≤ enabledCount z c s inp T' := by
  induction h with
  | refl => exact Nat.le_refl _
  | step _ ih => exact Nat.le_trans ih (Nat.le_add_right _ _)

end BMV.Stack
