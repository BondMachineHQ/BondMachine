/-
  Liveness of the handshake transition systems of BMV.Hs (C04): under every FAIR infinite schedule
  (the producer and every consumer reach their IO instruction on the bond again and again — how
  long they stay away, and in which order they come back, is arbitrary) every value is eventually
  transferred.  Simulator world and hardware world.

  The argument is the same in both worlds and is made once (`eventually_next`): fix a time t0 and
  suppose that the number of completed writes stays what it is for ever.  Then (a) the producer's
  offer (valid, resp. waitsm ∧ oK_val) is eventually raised and (b) once raised stays raised;
  (c) under a standing offer a consumer's recv is monotone and is raised the next time the consumer
  is at its IO instruction; (d) so at some time all recv lines are up (finite maximum over the
  consumers), and (e) in the next tick the write completes.  Only (a) needs a look at how each
  world gets from a completed write to the next offer.
-/
import BMV.Proofs.Hs
namespace BMV.Hs

/-- fairness of an infinite schedule for a bond with k consumers -/
def Fair (k : Nat) (σ : Nat → Sched) : Prop :=
  (∀ t, ∃ t', t ≤ t' ∧ (σ t').p = true) ∧
  (∀ i, i < k → ∀ t, ∃ t', t ≤ t' ∧ (σ t').c[i]? = some true)

theorem finite_max {k : Nat} {P : Nat → Nat → Prop}
    (h : ∀ i, i < k → ∃ T, ∀ t, T ≤ t → P i t) : ∃ T, ∀ i, i < k → ∀ t, T ≤ t → P i t := by
  induction k with
  | zero => exact ⟨0, fun i hi => absurd hi (Nat.not_lt_zero _)⟩
  | succ k ih =>
    obtain ⟨T1, h1⟩ := ih (fun i hi => h i (Nat.lt_succ_of_lt hi))
    obtain ⟨T2, h2⟩ := h k (Nat.lt_succ_self k)
    refine ⟨max T1 T2, fun i hi t ht => ?_⟩
    rcases Nat.lt_succ_iff_lt_or_eq.mp hi with hlt | rfl
    · exact h1 i hlt t (by omega)
    · exact h2 t (by omega)

/-- Along an infinite run: `next t` completed writes at time `t`, `offer t` the producer holds a
    value out, `recv t i` consumer `i` has acknowledged, `want t i` consumer `i` is at its IO
    instruction.  If offers are raised (a), stand until the write completes (b), are acknowledged
    by every consumer that shows up and stay acknowledged (c), and a fully acknowledged offer
    completes (e), then under a fair schedule another write always completes. -/
theorem eventually_next (next : Nat → Nat) (offer : Nat → Prop) (recv want : Nat → Nat → Prop) (k : Nat)
    (hmono : ∀ t, next t ≤ next (t + 1))
    (hraise : ∀ t0, (∀ t, t0 ≤ t → next t = next t0) → ∃ t, t0 ≤ t ∧ offer t)
    (hstay : ∀ t, offer t → next (t + 1) = next t → offer (t + 1))
    (hrecv : ∀ t i, i < k → offer t → recv t i ∨ want t i → recv (t + 1) i)
    (hdone : ∀ t, offer t → (∀ i, i < k → recv t i) → next t < next (t + 1))
    (hfair : ∀ i, i < k → ∀ t, ∃ t', t ≤ t' ∧ want t' i) (t0 : Nat) :
    ∃ t, next t0 < next t := by
  apply Classical.byContradiction
  intro hno
  have hle : ∀ t, t0 ≤ t → next t0 ≤ next t := by
    intro t ht
    induction ht with
    | refl => exact Nat.le_refl _
    | step _ ih => exact Nat.le_trans ih (hmono _)
  have hfr : ∀ t, t0 ≤ t → next t = next t0 := fun t ht =>
    Nat.le_antisymm (Nat.not_lt.mp fun h => hno ⟨t, h⟩) (hle t ht)
  obtain ⟨t1, ht1, ho⟩ := hraise t0 hfr
  have hoff : ∀ t, t1 ≤ t → offer t := by
    intro t ht
    induction ht with
    | refl => exact ho
    | @step t ht ih =>
      have ht : t1 ≤ t := ht
      exact hstay t ih ((hfr (t + 1) (by omega)).trans (hfr t (by omega)).symm)
  have hup : ∀ i, i < k → ∃ T, ∀ t, T ≤ t → recv t i := by
    intro i hi
    obtain ⟨t2, ht2, hw⟩ := hfair i hi t1
    refine ⟨t2 + 1, fun t ht => ?_⟩
    induction ht with
    | refl => exact hrecv t2 i hi (hoff t2 ht2) (.inr hw)
    | @step t ht ih =>
      have ht : t2 + 1 ≤ t := ht
      exact hrecv t i hi (hoff t (by omega)) (.inl ih)
  obtain ⟨T, hT⟩ := finite_max hup
  have h1 := hdone (max T t1) (hoff _ (Nat.le_max_right ..)) fun i hi => hT i hi _ (Nat.le_max_left ..)
  rw [hfr (max T t1 + 1) (by omega), hfr (max T t1) (by omega)] at h1
  exact Nat.lt_irrefl _ h1

theorem unbounded_of_progress {f : Nat → Nat} (h : ∀ t0, ∃ t, f t0 < f t) : ∀ n, ∃ t, n ≤ f t
  | 0 => ⟨0, Nat.zero_le _⟩
  | n + 1 =>
    have ⟨t0, h0⟩ := unbounded_of_progress h n
    have ⟨t, ht⟩ := h t0
    ⟨t, Nat.lt_of_le_of_lt h0 ht⟩

end BMV.Hs

namespace BMV.Hs.Isa

/-- run along an infinite schedule -/
def runF (σ : Nat → Sched) (s : St) : Nat → St
  | 0 => s
  | t + 1 => step (runF σ s t) (σ t)

theorem runF_inv (σ : Nat → Sched) (s : St) (h : Inv s) : ∀ t, Inv (runF σ s t)
  | 0 => h
  | t + 1 => inv_step _ _ (runF_inv σ s h t)

theorem runF_eq_run (σ : Nat → Sched) (s : St) (t : Nat) :
    runF σ s t = run s ((List.range t).map σ) := by
  induction t with
  | zero => rfl
  | succ t ih => simp [runF, ih, run, List.range_succ, List.foldl_append]

theorem runF_cs_length (σ : Nat → Sched) (s : St) (t : Nat) : (runF σ s t).cs.length = s.cs.length := by
  induction t with
  | zero => rfl
  | succ t ih => rw [runF, step_cs, length_stepAll, ih]

theorem cstep_want_high (d : Nat) (c : Cons) : (cstep true d true c).recv = true := by
  obtain ⟨a, r, df, g⟩ := c
  cases a <;> cases r <;> cases df <;> rfl

theorem cstep_recv_mono (d : Nat) (w : Bool) (c : Cons) (h : c.recv = true) : (cstep true d w c).recv = true := by
  obtain ⟨a, r, df, g⟩ := c
  cases (show r = true from h)
  cases a <;> cases df <;> cases w <;> rfl

/-! The steps of the argument for one tick: `valid_stays` is (b), `recv_raised` (c), `completes` (e);
    `recv_low_of_valid_low` and `valid_raised` make (a). -/

theorem next_le_step (s : St) (sch : Sched) : s.next ≤ (step s sch).next := by
  rw [step_next]
  split
  · exact Nat.le_succ _
  · exact Nat.le_refl _

theorem act_of_valid {s : St} (h : Inv s) (hv : s.valid = true) (sch : Sched) : (s.atIO || sch.p) = true := by
  rw [(h.2.1 hv).1]; rfl

theorem valid_stays {s : St} {sch : Sched} (h : Inv s) (hv : s.valid = true) (hn : (step s sch).next = s.next) :
    (step s sch).valid = true := by
  cases hr : (!s.cs.isEmpty && s.cs.all (·.recv))
  · rw [step_offer (act_of_valid h hv sch) hr]
  · rw [step_complete (act_of_valid h hv sch) hv hr] at hn
    exact absurd hn (Nat.succ_ne_self _)

theorem recv_raised {s : St} {sch : Sched} {i : Nat} (hv : s.valid = true) (hi : i < s.cs.length)
    (h : (∃ c, s.cs[i]? = some c ∧ c.recv = true) ∨ sch.c[i]? = some true) :
    ∃ c, (step s sch).cs[i]? = some c ∧ c.recv = true := by
  rw [step_cs, hv]
  exact stepAll_raises hi (cstep_recv_mono _) (cstep_want_high _) h

theorem completes {s : St} {sch : Sched} (h : Inv s) (hv : s.valid = true) (hk : 0 < s.cs.length)
    (hall : ∀ i, i < s.cs.length → ∃ c, s.cs[i]? = some c ∧ c.recv = true) : s.next < (step s sch).next := by
  rw [step_complete (act_of_valid h hv sch) hv (received_of_get hk hall)]
  exact Nat.lt_succ_self _

theorem recv_low_of_valid_low {s : St} (h : Inv s) (hv : s.valid = false) (sch : Sched) :
    ∀ c ∈ (step s sch).cs, c.recv = false := by
  rw [step_cs, hv]
  exact forall_mem_stepAll _ fun c hc w => (cstep_low _ w (hv ▸ h.2.2.1 c hc)).1

theorem valid_raised {s : St} {sch : Sched} (hp : sch.p = true)
    (hr : (!s.cs.isEmpty && s.cs.all (·.recv)) = false) : (step s sch).valid = true := by
  rw [step_offer (by rw [hp, Bool.or_true]) hr]

/-- **progress**: along a fair schedule, from any reachable state of a bond with at least one
    consumer, another write eventually completes -/
theorem progress (σ : Nat → Sched) (s0 : St) (h0 : Inv s0) (hk : 0 < s0.cs.length)
    (hf : Fair s0.cs.length σ) (t0 : Nat) :
    ∃ t, (runF σ s0 t0).next < (runF σ s0 t).next := by
  have hI := runF_inv σ s0 h0
  have hlen := runF_cs_length σ s0
  refine eventually_next (fun t => (runF σ s0 t).next) (fun t => (runF σ s0 t).valid = true)
    (fun t i => ∃ c, (runF σ s0 t).cs[i]? = some c ∧ c.recv = true) (fun t i => (σ t).c[i]? = some true)
    s0.cs.length (fun t => next_le_step _ _) (fun t0 _ => ?_) (fun t hv hn => valid_stays (hI t) hv hn)
    (fun t i hi hv h => recv_raised hv (by rw [hlen]; exact hi) h)
    (fun t hv hall => completes (hI t) hv (by rw [hlen]; exact hk) fun i hi => hall i (by rw [← hlen t]; exact hi))
    hf.2 t0
  -- (a) were valid low from t0 on, the producer's next arrival after t0 + 1 would raise it
  apply Classical.byContradiction
  intro hnv
  have hlow : ∀ t, t0 ≤ t → (runF σ s0 t).valid = false := fun t ht => by
    cases hv : (runF σ s0 t).valid
    · rfl
    · exact absurd ⟨t, ht, hv⟩ hnv
  obtain ⟨t2, ht2, hp⟩ := hf.1 (t0 + 1)
  obtain ⟨u, rfl⟩ : ∃ u, t2 = u + 1 := ⟨t2 - 1, by omega⟩
  exact Bool.false_ne_true ((hlow (u + 2) (by omega)).symm.trans
    (valid_raised hp (received_false (recv_low_of_valid_low (hI u) (hlow u (by omega)) (σ u)))))

end BMV.Hs.Isa

namespace BMV.Hs.Rtl

def runF (σ : Nat → Sched) (s : St) : Nat → St
  | 0 => s
  | t + 1 => step (runF σ s t) (σ t)

theorem runF_inv (σ : Nat → Sched) (s : St) (h : Inv s) : ∀ t, Inv (runF σ s t)
  | 0 => h
  | t + 1 => inv_step _ _ (runF_inv σ s h t)

theorem runF_eq_run (σ : Nat → Sched) (s : St) (t : Nat) :
    runF σ s t = run s ((List.range t).map σ) := by
  induction t with
  | zero => rfl
  | succ t ih => simp [runF, ih, run, List.range_succ, List.foldl_append]

theorem runF_cs_length (σ : Nat → Sched) (s : St) (t : Nat) : (runF σ s t).cs.length = s.cs.length := by
  induction t with
  | zero => rfl
  | succ t ih => rw [runF, step_cs, length_stepAll, ih]

theorem cstep_want_high (d : Nat) (c : Cons) : (cstep true d true c).recv = true := by
  obtain ⟨a, r, g⟩ := c
  cases a <;> cases r <;> rfl

/-! The steps of the argument for one clock, the offer being `waitsm ∧ oK_val`: `offer_stays` is (b),
    `recv_raised` (c), `completes` (e); (a) is made of `offer_after_waitsm`, `oVal_falls` (a lingering
    valid has been received), `recv_low_of_oVal_low` and `waitsm_raised`. -/

theorem next_le_step (s : St) (sch : Sched) : s.next ≤ (step s sch).next := by
  rw [step_next]
  split
  · exact Nat.le_succ _
  · exact Nat.le_refl _

theorem act_of_waitsm {s : St} (h : Inv s) (hw : s.waitsm = true) (sch : Sched) : (s.atIO || sch.p) = true := by
  rw [h.2.1 hw]; rfl

theorem offer_stays {s : St} {sch : Sched} (h : Inv s) (hw : s.waitsm = true)
    (hn : (step s sch).next = s.next) : (step s sch).waitsm = true ∧ (step s sch).oVal = true := by
  cases hr : (!s.cs.isEmpty && s.cs.all (·.recv))
  · rw [step_offer (act_of_waitsm h hw sch) hw hr]
    exact ⟨hw, rfl⟩
  · rw [step_complete (act_of_waitsm h hw sch) hw hr] at hn
    exact absurd hn (Nat.succ_ne_self _)

theorem recv_raised {s : St} {sch : Sched} {i : Nat} (ho : s.oVal = true) (hi : i < s.cs.length)
    (h : (∃ c, s.cs[i]? = some c ∧ c.recv = true) ∨ sch.c[i]? = some true) :
    ∃ c, (step s sch).cs[i]? = some c ∧ c.recv = true := by
  rw [step_cs, ho]
  exact stepAll_raises hi (fun w c h => (cstep_keep _ w h).1) (cstep_want_high _) h

theorem completes {s : St} {sch : Sched} (h : Inv s) (hw : s.waitsm = true) (hk : 0 < s.cs.length)
    (hall : ∀ i, i < s.cs.length → ∃ c, s.cs[i]? = some c ∧ c.recv = true) : s.next < (step s sch).next := by
  rw [step_complete (act_of_waitsm h hw sch) hw (received_of_get hk hall)]
  exact Nat.lt_succ_self _

theorem offer_after_waitsm {s : St} (h : Inv s) (hw : s.waitsm = true) (ho : s.oVal = false) (sch : Sched) :
    (step s sch).waitsm = true ∧ (step s sch).oVal = true := by
  rw [step_offer (act_of_waitsm h hw sch) hw (received_false (h.2.2.2.2.1 hw ho))]
  exact ⟨hw, rfl⟩

theorem oVal_falls {s : St} (h : Inv s) (hw : s.waitsm = false) (sch : Sched) : (step s sch).oVal = false := by
  rw [step_oVal, hw]
  show (if _ then (if _ then false else _) else (if _ then false else _)) = false
  rw [ite_self]
  cases ho : s.oVal
  · exact ite_self _
  · exact if_pos ((received_iff _ _).mpr (h.2.2.2.2.2.1 hw ho))

theorem recv_low_of_oVal_low {s : St} (ho : s.oVal = false) (sch : Sched) : ∀ c ∈ (step s sch).cs, c.recv = false := by
  rw [step_cs, ho]
  exact forall_mem_stepAll _ fun c _ w => (cstep_low (v := 0) _ w rfl).1

theorem waitsm_raised {s : St} {sch : Sched} (hp : sch.p = true) (hw : s.waitsm = false)
    (hr : (!s.cs.isEmpty && s.cs.all (·.recv)) = false) : (step s sch).waitsm = true := by
  rw [step_start (by rw [hp, Bool.or_true]) hw, hr]
  rfl

/-- **progress** (hardware): along a fair schedule, from any reachable state of a bond with at
    least one consumer, another write eventually completes -/
theorem progress (σ : Nat → Sched) (s0 : St) (h0 : Inv s0) (hk : 0 < s0.cs.length)
    (hf : Fair s0.cs.length σ) (t0 : Nat) :
    ∃ t, (runF σ s0 t0).next < (runF σ s0 t).next := by
  have hI := runF_inv σ s0 h0
  have hlen := runF_cs_length σ s0
  refine eventually_next (fun t => (runF σ s0 t).next)
    (fun t => (runF σ s0 t).waitsm = true ∧ (runF σ s0 t).oVal = true)
    (fun t i => ∃ c, (runF σ s0 t).cs[i]? = some c ∧ c.recv = true) (fun t i => (σ t).c[i]? = some true)
    s0.cs.length (fun t => next_le_step _ _) (fun t0 _ => ?_) (fun t hv hn => offer_stays (hI t) hv.1 hn)
    (fun t i hi hv h => recv_raised hv.2 (by rw [hlen]; exact hi) h)
    (fun t hv hall => completes (hI t) hv.1 (by rw [hlen]; exact hk) fun i hi => hall i (by rw [← hlen t]; exact hi))
    hf.2 t0
  -- (a) were there no offer from t0 on: waitsm would stay low, so oK_val would be low one clock
  -- later and every recv line two clocks later; the producer's next arrival would raise waitsm
  apply Classical.byContradiction
  intro hnv
  have hwl : ∀ t, t0 ≤ t → (runF σ s0 t).waitsm = false := fun t ht => by
    cases hw : (runF σ s0 t).waitsm
    · rfl
    · cases ho : (runF σ s0 t).oVal
      · exact absurd ⟨t + 1, by omega, offer_after_waitsm (hI t) hw ho (σ t)⟩ hnv
      · exact absurd ⟨t, ht, hw, ho⟩ hnv
  obtain ⟨t2, ht2, hp⟩ := hf.1 (t0 + 2)
  obtain ⟨u, rfl⟩ : ∃ u, t2 = u + 1 := ⟨t2 - 1, by omega⟩
  obtain ⟨u, rfl⟩ : ∃ w, u = w + 1 := ⟨u - 1, by omega⟩
  exact Bool.false_ne_true ((hwl (u + 3) (by omega)).symm.trans
    (waitsm_raised hp (hwl (u + 2) (by omega))
      (received_false (recv_low_of_oVal_low (oVal_falls (hI u) (hwl u (by omega)) (σ u)) (σ (u + 1))))))

end BMV.Hs.Rtl
