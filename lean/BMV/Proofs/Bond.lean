/-
  Helper lemmas for C02: the netlist model BMV.Bond.wire connects exactly the bonds
  (`exact_wire`), and the running && of VM.Step (BMV.Bm.recvOf).  Property theorems live in
  BMV/Props/C02.lean.
-/
import BMV.Bond
import BMV.Bm
import BMV.Proofs.Topology
namespace BMV.Bond
open BMV.Topology

/-! ### generic list facts -/

theorem find?_unique {α} {l : List α} {p : α → Bool} {x : α} (hx : x ∈ l) (hp : p x = true)
    (hu : ∀ y ∈ l, p y = true → y = x) : l.find? p = some x := by
  cases h : l.find? p with
  | none => exact absurd hp (by simpa using (List.find?_eq_none.mp h) x hx)
  | some y => rw [hu y (List.mem_of_find?_eq_some h) (List.find?_some h)]

theorem length_flatMap {α β} (l : List α) (g : α → List β) {n : Nat} (hg : ∀ x ∈ l, (g x).length = n) :
    (l.flatMap g).length = n * l.length := by
  induction l with
  | nil => rfl
  | cons a l ih =>
    rw [List.flatMap_cons, List.length_append, hg a List.mem_cons_self,
      ih fun x hx => hg x (List.mem_cons_of_mem _ hx), List.length_cons, Nat.mul_succ, Nat.add_comm]

theorem getElem?_flatMap {α β} (pre post : List β) (l : List α) (g : α → List β) {n : Nat}
    (hg : ∀ x ∈ l, (g x).length = n) {e k : Nat} {x : α} (he : l[e]? = some x) (hk : k < n) :
    (pre ++ l.flatMap g ++ post)[pre.length + n * e + k]? = (g x)[k]? := by
  induction l generalizing pre e with
  | nil => cases he
  | cons a l ih =>
    have ha := hg a List.mem_cons_self
    rw [List.flatMap_cons, ← List.append_assoc pre]
    cases e with
    | zero =>
      cases he
      rw [List.append_assoc, List.append_assoc, List.getElem?_append_right (by omega),
        List.getElem?_append_left (by omega)]
      congr 1; omega
    | succ e =>
      rw [show pre.length + n * (e + 1) + k = (pre ++ g a).length + n * e + k by
        rw [List.length_append, ha, Nat.mul_succ]; omega]
      exact ih _ (fun x hx => hg x (List.mem_cons_of_mem _ hx)) he

theorem map_proc_zipIdx {α} (l : List α) (f : α × Nat → Inst) (hf : ∀ x k, (f (x, k)).proc = k) :
    (l.zipIdx.map f).map (·.proc) = List.range l.length := by
  have : (l.zipIdx.map f).map (·.proc) = l.zipIdx.map Prod.snd := by
    simp only [List.map_map]; apply List.map_congr_left; intro ⟨x, k⟩ _; simp [hf]
  rw [this, List.zipIdx_map_snd]; simp [List.range_eq_range']

/-! ### the zipped (internal input, link) list of a well-formed machine -/

theorem mem_zip_iff {t : Topo} {b : Bond} {l : Option Nat} :
    (b, l) ∈ t.iin.zip t.links ↔ ∃ i : Nat, t.iin[i]? = some b ∧ t.links[i]? = some l := by
  constructor
  · intro h
    obtain ⟨i, hi⟩ := List.mem_iff_getElem?.mp h
    rw [List.getElem?_zip_eq_some] at hi
    exact ⟨i, hi⟩
  · rintro ⟨i, h1, h2⟩
    exact List.mem_iff_getElem?.mpr ⟨i, by rw [List.getElem?_zip_eq_some]; exact ⟨h1, h2⟩⟩

theorem zip_unique {t : Topo} (h : WF t) {s : Bond} {i : Nat} {l l' : Option Nat}
    (hs : t.iin[i]? = some s) (hl : t.links[i]? = some l) (hm : (s, l') ∈ t.iin.zip t.links) : l' = l := by
  obtain ⟨i', h1, h2⟩ := mem_zip_iff.mp hm
  have := idx_unique h.iin_nodup h1 hs
  subst this
  rw [hl] at h2; exact (Option.some.inj h2).symm

theorem slot_of_mem {t : Topo} (h : WF t) {s : Bond} (hs : s ∈ t.iin) :
    ∃ (i : Nat) (l : Option Nat), t.iin[i]? = some s ∧ t.links[i]? = some l := by
  obtain ⟨i, hi⟩ := List.mem_iff_getElem?.mp hs
  have hlt : i < t.links.length := by
    have := (List.getElem?_eq_some_iff.mp hi).1
    rw [h.links_len]; exact this
  exact ⟨i, t.links[i], hi, List.getElem?_eq_getElem hlt⟩

theorem find_slot {t : Topo} (h : WF t) {s : Bond} {i : Nat} {l : Option Nat}
    (hs : t.iin[i]? = some s) (hl : t.links[i]? = some l) :
    (t.iin.zip t.links).find? (fun q => q.1 = s) = some (s, l) := by
  apply find?_unique (mem_zip_iff.mpr ⟨i, hs, hl⟩) (by simp)
  rintro ⟨b, l'⟩ hm hb
  simp only [decide_eq_true_eq] at hb
  subst hb
  rw [zip_unique h hs hl hm]

theorem driverOf_slot {t : Topo} (h : WF t) {s : Bond} {i : Nat} {l : Option Nat}
    (hs : t.iin[i]? = some s) (hl : t.links[i]? = some l) :
    driverOf t s = l.bind (t.iout[·]?) := by
  unfold driverOf
  rw [find_slot h hs hl]
  cases l <;> rfl

theorem link_target {t : Topo} (h : WF t) {i j : Nat} (hl : t.links[i]? = some (some j)) :
    ∃ o, t.iout[j]? = some o :=
  ⟨t.iout[j]'(links_rng_idx h hl), List.getElem?_eq_getElem _⟩

theorem driverOf_iff_bond {t : Topo} (h : WF t) {s o : Bond} (hs : s ∈ t.iin) :
    driverOf t s = some o ↔ (o, s) ∈ bonds t := by
  obtain ⟨i, l, hi, hl⟩ := slot_of_mem h hs
  rw [driverOf_slot h hi hl, mem_bonds]
  constructor
  · intro hd
    cases l with
    | none => simp at hd
    | some j => exact ⟨i, j, hi, hl, hd⟩
  · rintro ⟨i', j, h1, h2, h3⟩
    have := idx_unique h.iin_nodup h1 hi
    subst this
    rw [hl] at h2
    cases l with
    | none => simp at h2
    | some j' => simp at h2; subst h2; exact h3

theorem driverOf_mem {t : Topo} (h : WF t) {s o : Bond} (hs : s ∈ t.iin) (hd : driverOf t s = some o) :
    o ∈ t.iout :=
  bond_driver_mem ((driverOf_iff_bond h hs).mp hd)

theorem unlinked_of_driverOf_none {t : Topo} (h : WF t) {s : Bond} (hs : s ∈ t.iin)
    (hd : driverOf t s = none) : (s, none) ∈ t.iin.zip t.links := by
  obtain ⟨i, _ | j, hi, hl⟩ := slot_of_mem h hs
  · exact mem_zip_iff.mpr ⟨i, hi, hl⟩
  · obtain ⟨o, ho⟩ := link_target h hl
    cases ((driverOf_slot h hi hl).symm.trans hd).symm.trans ho

theorem iin_ext {t : Topo} (h : WF t) {s : Bond} (hs : s ∈ t.iin) (hk1 : s.kind = 1) :
    s = extOut s.res ∧ s.res < t.outputs := by
  rcases (h.iin_mem s).mp hs with ⟨_, hr, he⟩ | ⟨h2, _⟩
  · exact ⟨by cases s; simp_all [extOut], hr⟩
  · omega

theorem procInputConns_eq {t : Topo} (h : WF t) {p e : Nat} (hs : (⟨2, p, e⟩ : Bond) ∈ t.iin) :
    procInputConns t p e =
      match driverOf t ⟨2, p, e⟩ with
      | some o => [.data o, .valid o, .recv ⟨2, p, e⟩]
      | none => triple ⟨2, p, e⟩ := by
  obtain ⟨i, l, hi, hl⟩ := slot_of_mem h hs
  rw [driverOf_slot h hi hl]
  unfold procInputConns
  rw [find_slot h hi hl]
  cases l with
  | none => rfl
  | some j =>
    obtain ⟨o, ho⟩ := link_target h hl
    simp [ho]

theorem procInputConns_length {t : Topo} (h : WF t) {p e : Nat} (hs : (⟨2, p, e⟩ : Bond) ∈ t.iin) :
    (procInputConns t p e).length = 3 := by
  rw [procInputConns_eq h hs]
  cases driverOf t ⟨2, p, e⟩ <;> rfl


/-! ### instances and their connections -/

theorem mem_wire_insts {t : Topo} {rs : Nat} {i : Inst} :
    i ∈ (wire t rs).insts ↔ ∃ p nm, t.procs[p]? = some nm ∧ i = procInst t p nm := by
  constructor
  · intro h
    obtain ⟨⟨nm, p⟩, hm, rfl⟩ := List.mem_map.mp h
    exact ⟨p, nm, List.mk_mem_zipIdx_iff_getElem?.mp hm, rfl⟩
  · rintro ⟨p, nm, hp, rfl⟩
    exact List.mem_map.mpr ⟨(nm, p), List.mk_mem_zipIdx_iff_getElem?.mpr hp, rfl⟩

theorem wire_inst {t : Topo} {rs p : Nat} {nm : Nat × Nat} (hp : t.procs[p]? = some nm) :
    (wire t rs).inst p = some (procInst t p nm) := by
  refine find?_unique (mem_wire_insts.mpr ⟨p, nm, hp, rfl⟩) (decide_eq_true rfl) fun y hy hyp => ?_
  obtain ⟨q, nm', hq, rfl⟩ := mem_wire_insts.mp hy
  obtain rfl : q = p := of_decide_eq_true hyp
  rw [Option.some.inj (hq.symm.trans hp)]

theorem wire_insts (t : Topo) (rs : Nat) : (wire t rs).insts.map (·.proc) = List.range t.procs.length :=
  map_proc_zipIdx t.procs (fun q => procInst t q.2 q.1) (fun _ _ => rfl)

theorem mem_iin_proc {t : Topo} (h : WF t) {p e : Nat} {nm : Nat × Nat} (hp : t.procs[p]? = some nm)
    (he : e < nm.1) : (⟨2, p, e⟩ : Bond) ∈ t.iin :=
  (h.iin_mem _).mpr (Or.inr ⟨rfl, nm, hp, he⟩)

theorem inputs_length {t : Topo} (h : WF t) {p : Nat} {nm : Nat × Nat} (hp : t.procs[p]? = some nm) :
    ((List.range nm.1).flatMap (procInputConns t p)).length = 3 * nm.1 := by
  rw [length_flatMap _ _ (fun e he => procInputConns_length h (mem_iin_proc h hp (List.mem_range.mp he)))]
  simp

theorem conn_input {t : Topo} (h : WF t) {p e k : Nat} {nm : Nat × Nat} (hp : t.procs[p]? = some nm)
    (he : e < nm.1) (hk : k < 3) :
    (procInst t p nm).conns[2 + 3 * e + k]? = (procInputConns t p e)[k]? :=
  getElem?_flatMap [.clk, .reset] _ _ _
    (fun _ he => procInputConns_length h (mem_iin_proc h hp (List.mem_range.mp he)))
    (List.getElem?_range he) hk

theorem conn_output {t : Topo} (h : WF t) {p e k : Nat} {nm : Nat × Nat} (hp : t.procs[p]? = some nm)
    (he : e < nm.2) (hk : k < 3) :
    (procInst t p nm).conns[2 + 3 * nm.1 + 3 * e + k]? = (triple ⟨3, p, e⟩)[k]? := by
  have := getElem?_flatMap ([.clk, .reset] ++ (List.range nm.1).flatMap (procInputConns t p)) []
    (List.range nm.2) (fun e => triple ⟨3, p, e⟩) (fun _ _ => rfl) (List.getElem?_range he) hk
  rwa [List.append_nil, List.length_append, inputs_length h hp] at this

theorem bond_eta2 {s : Bond} (hk : s.kind = 2) : s = ⟨2, s.res, s.ext⟩ := by
  cases s; simp_all

/-! ### the clauses of `Exact (wire t rs) t` -/

theorem wire_sink_conn {t : Topo} (h : WF t) (rs : Nat) {s : Bond} (hs : s ∈ t.iin) (hk2 : s.kind = 2)
    {k : Nat} (hk : k < 3) :
    ∃ i, (wire t rs).inst s.res = some i ∧ i.conns[2 + 3 * s.ext + k]? =
      (match driverOf t s with
        | some o => [Net.data o, .valid o, .recv s]
        | none => triple s)[k]? := by
  rcases (h.iin_mem s).mp hs with ⟨h1, _⟩ | ⟨_, nm, hp, he⟩
  · omega
  · have hs' : (⟨2, s.res, s.ext⟩ : Bond) ∈ t.iin := by rw [← bond_eta2 hk2]; exact hs
    refine ⟨_, wire_inst hp, ?_⟩
    rw [conn_input h hp he hk, procInputConns_eq h hs', ← bond_eta2 hk2]

theorem wire_sinkSrc_proc {t : Topo} (h : WF t) (rs : Nat) {s : Bond} (hs : s ∈ t.iin) (hk2 : s.kind = 2)
    {k : Nat} (hk : k < 2) : (wire t rs).sinkSrc s k = srcSpec t s k := by
  obtain ⟨i, hi, hc⟩ := wire_sink_conn h rs hs hk2 (show k < 3 by omega)
  unfold Netlist.sinkSrc srcSpec
  rw [if_pos hk2, hi]
  simp only
  rw [hc, if_pos hk2]
  have hk' : k = 0 ∨ k = 1 := by omega
  cases driverOf t s <;> rcases hk' with rfl | rfl <;> simp [lineNet, triple]

theorem wire_sinkRecv_proc {t : Topo} (h : WF t) (rs : Nat) {s : Bond} (hs : s ∈ t.iin) (hk2 : s.kind = 2) :
    (wire t rs).sinkRecv s = some (.recv s) := by
  obtain ⟨i, hi, hc⟩ := wire_sink_conn h rs hs hk2 (show 2 < 3 by omega)
  unfold Netlist.sinkRecv
  rw [if_pos hk2, hi]
  simp only
  rw [hc]
  cases driverOf t s <;> simp [triple]

/-! ### the continuous assignments -/

theorem lineNet_lt2 {k : Nat} (hk : k < 2) (b : Bond) :
    (k = 0 ∧ lineNet k b = .data b) ∨ (k = 1 ∧ lineNet k b = .valid b) := by
  rcases (by omega : k = 0 ∨ k = 1) with rfl | rfl
  · exact Or.inl ⟨rfl, rfl⟩
  · exact Or.inr ⟨rfl, rfl⟩

theorem lineNet_inj {k k' : Nat} (hk : k < 2) (hk' : k' < 2) {b b' : Bond} (e : lineNet k b = lineNet k' b') :
    k = k' ∧ b = b' := by
  rcases lineNet_lt2 hk b with ⟨rfl, h⟩ | ⟨rfl, h⟩ <;> rcases lineNet_lt2 hk' b' with ⟨rfl, h'⟩ | ⟨rfl, h'⟩ <;>
    rw [h, h'] at e <;> cases e <;> exact ⟨rfl, rfl⟩

theorem lineNet_ne_recv {k : Nat} (hk : k < 2) (b o : Bond) : lineNet k b ≠ .recv o := by
  rcases lineNet_lt2 hk b with ⟨_, h⟩ | ⟨_, h⟩ <;> rw [h] <;> exact Net.noConfusion

theorem mem_extAssigns {t : Topo} (h : WF t) {a : Net × Rhs} :
    a ∈ extAssigns t ↔ ∃ s o k, s ∈ t.iin ∧ s.kind = 1 ∧ driverOf t s = some o ∧ k < 2 ∧
      a = (lineNet k s, .id (lineNet k o)) := by
  have hline : ∀ (b o : Bond), a ∈ [(Net.data b, Rhs.id (.data o)), (.valid b, .id (.valid o))] ↔
      ∃ k, k < 2 ∧ a = (lineNet k b, .id (lineNet k o)) := by
    intro b o
    simp only [List.mem_cons, List.not_mem_nil, or_false]
    constructor
    · rintro (h | h)
      · exact ⟨0, by omega, h⟩
      · exact ⟨1, by omega, h⟩
    · rintro ⟨k, hk, h⟩
      rcases (by omega : k = 0 ∨ k = 1) with rfl | rfl
      · exact Or.inl h
      · exact Or.inr h
  unfold extAssigns
  simp only [List.mem_flatMap]
  constructor
  · rintro ⟨⟨b, _ | j⟩, hm, ha⟩
    · cases ha
    · obtain ⟨i, hi, hl⟩ := mem_zip_iff.mp hm
      obtain ⟨o, ho⟩ := link_target h hl
      simp only [ho] at ha
      split at ha
      · next hk =>
        obtain ⟨k, hk2, e⟩ := (hline b o).mp ha
        exact ⟨b, o, k, List.mem_of_getElem? hi, hk, (driverOf_slot h hi hl).trans ho, hk2, e⟩
      · cases ha
  · rintro ⟨s, o, k, hs, hk1, hd, hk, e⟩
    obtain ⟨i, _ | j, hi, hl⟩ := slot_of_mem h hs
    · rw [driverOf_slot h hi hl] at hd; cases hd
    · refine ⟨(s, some j), mem_zip_iff.mpr ⟨i, hi, hl⟩, ?_⟩
      simp only [hk1, if_true, show t.iout[j]? = some o from (driverOf_slot h hi hl).symm.trans hd]
      exact (hline s o).mpr ⟨k, hk, e⟩

theorem mem_recvAssign {t : Topo} {o : Bond} {j : Nat} {a : Net × Rhs} :
    a ∈ recvAssign t o j ↔ recvSpec t j = some a.2 ∧ a.1 = .recv o := by
  obtain ⟨n, r⟩ := a
  unfold recvAssign recvSpec
  cases consumers t j with
  | nil => simp
  | cons c cs => cases cs <;> simp [eq_comm, and_comm]

theorem mem_wire_assigns {t : Topo} {rs : Nat} {a : Net × Rhs} :
    a ∈ (wire t rs).assigns ↔ a ∈ extAssigns t ∨ ∃ o j, t.iout[j]? = some o ∧ a ∈ recvAssign t o j := by
  simp only [wire, List.mem_append, List.mem_flatMap]
  constructor
  · rintro (h | ⟨⟨o, j⟩, hm, ha⟩)
    · exact Or.inl h
    · exact Or.inr ⟨o, j, List.mem_zipIdx_iff_getElem?.mp hm, ha⟩
  · rintro (h | ⟨o, j, hm, ha⟩)
    · exact Or.inl h
    · exact Or.inr ⟨(o, j), List.mem_zipIdx_iff_getElem?.mpr hm, ha⟩

theorem mem_assigns_line {t : Topo} (h : WF t) (rs : Nat) {s : Bond} (hs : s ∈ t.iin) (hk1 : s.kind = 1)
    {k : Nat} (hk : k < 2) (r : Rhs) :
    (lineNet k s, r) ∈ (wire t rs).assigns ↔ (driverOf t s).map (fun o => Rhs.id (lineNet k o)) = some r := by
  rw [mem_wire_assigns, mem_extAssigns h]
  constructor
  · rintro (⟨s', o, k', _, _, hd, hk', e⟩ | ⟨o, j, _, ha⟩)
    · obtain ⟨rfl, rfl⟩ := lineNet_inj hk hk' (congrArg Prod.fst e)
      rw [hd, (Prod.mk.inj e).2]; rfl
    · exact absurd (mem_recvAssign.mp ha).2 (lineNet_ne_recv hk s o)
  · intro hd
    obtain ⟨o, ho, rfl⟩ := Option.map_eq_some_iff.mp hd
    exact Or.inl ⟨s, o, k, hs, hk1, ho, hk, rfl⟩

theorem mem_assigns_recv {t : Topo} (h : WF t) (rs : Nat) {j : Nat} {o : Bond} (ho : t.iout[j]? = some o)
    (r : Rhs) : (Net.recv o, r) ∈ (wire t rs).assigns ↔ recvSpec t j = some r := by
  rw [mem_wire_assigns, mem_extAssigns h]
  constructor
  · rintro (⟨s, o', k, _, _, _, hk, e⟩ | ⟨o', j', ho', ha⟩)
    · exact absurd (congrArg Prod.fst e).symm (lineNet_ne_recv hk s o)
    · obtain ⟨h2, h3⟩ := mem_recvAssign.mp ha
      cases h3
      rwa [idx_unique h.iout_nodup ho ho']
  · exact fun hs => Or.inr ⟨o, j, ho, mem_recvAssign.mpr ⟨hs, rfl⟩⟩

/-- a left-hand side with at most one assignment -/
theorem assignOf_eq {nl : Netlist} {lhs : Net} {r : Option Rhs}
    (h : ∀ r', (lhs, r') ∈ nl.assigns ↔ r = some r') : nl.assignOf lhs = r := by
  unfold Netlist.assignOf
  cases r with
  | none =>
    rw [List.find?_eq_none.mpr fun a ha => by
      simpa using fun e : a.1 = lhs => nomatch (h a.2).mp (e ▸ ha)]
    rfl
  | some r =>
    rw [find?_unique ((h r).mpr rfl) (by simp) fun a ha hp => by
      obtain ⟨n, r'⟩ := a
      obtain rfl : n = lhs := by simpa using hp
      rw [Option.some.inj ((h r').mp ha)]]
    rfl

theorem wire_recv {t : Topo} (h : WF t) (rs : Nat) {j : Nat} {o : Bond} (ho : t.iout[j]? = some o) :
    (wire t rs).assignOf (.recv o) = recvSpec t j :=
  assignOf_eq (mem_assigns_recv h rs ho)

theorem wire_sinkSrc_ext {t : Topo} (h : WF t) (rs : Nat) {s : Bond} (hs : s ∈ t.iin) (hk1 : s.kind = 1)
    {k : Nat} (hk : k < 2) : (wire t rs).sinkSrc s k = srcSpec t s k := by
  have hne : ¬ s.kind = 2 := by omega
  unfold Netlist.sinkSrc srcSpec
  rw [if_neg hne, if_neg hne,
    show (if k = 0 then Net.data s else .valid s) = lineNet k s by
      rcases lineNet_lt2 hk s with ⟨rfl, e⟩ | ⟨rfl, e⟩ <;> rw [e] <;> rfl,
    assignOf_eq (mem_assigns_line h rs hs hk1 hk)]
  cases driverOf t s <;> rfl

theorem wire_frame {t : Topo} (h : WF t) (rs : Nat) : ∀ a ∈ (wire t rs).assigns,
    (∃ o ∈ t.iout, a.1 = .recv o) ∨
    (∃ s ∈ t.iin, s.kind = 1 ∧ (driverOf t s).isSome ∧ (a.1 = .data s ∨ a.1 = .valid s)) := by
  intro a ha
  rcases mem_wire_assigns.mp ha with he | ⟨o, j, ho, ha'⟩
  · obtain ⟨s, o, k, hs, hk1, hd, hk, rfl⟩ := (mem_extAssigns h).mp he
    exact Or.inr ⟨s, hs, hk1, by rw [hd]; rfl, (lineNet_lt2 hk s).imp (·.2) (·.2)⟩
  · exact Or.inl ⟨o, List.mem_of_getElem? ho, (mem_recvAssign.mp ha').2⟩

/-! ### drivers, external ports -/

theorem mem_headerPorts_in {t : Topo} {k : Nat} (hk : k < t.inputs) (n : Nat) :
    lineNet n (extIn k) ∈ headerPorts t := by
  unfold headerPorts
  apply List.mem_append_left
  apply List.mem_append_right
  rw [List.mem_flatMap]
  refine ⟨k, List.mem_range.mpr hk, ?_⟩
  unfold lineNet triple
  split
  · simp
  · split <;> simp

theorem mem_headerPorts_out {t : Topo} {k : Nat} (hk : k < t.outputs) :
    Net.recv (extOut k) ∈ headerPorts t := by
  unfold headerPorts
  apply List.mem_append_right
  rw [List.mem_flatMap]
  exact ⟨k, List.mem_range.mpr hk, by simp [triple]⟩

theorem wire_drivers {t : Topo} (h : WF t) (rs : Nat) {o : Bond} (ho : o ∈ t.iout) {k : Nat} (hk : k < 3) :
    (wire t rs).drvNet o (procIns t o.res) k = some (lineNet k o) := by
  rcases (h.iout_mem o).mp ho with ⟨h0, hr, he⟩ | ⟨h3, nm, hp, he⟩
  · have hne : ¬ o.kind = 3 := by omega
    have ho' : o = extIn o.res := by cases o; simp_all [extIn]
    unfold Netlist.drvNet
    rw [if_neg hne]
    have : lineNet k o ∈ (wire t rs).ports := by rw [ho']; exact mem_headerPorts_in hr k
    simp only [lineNet] at this ⊢
    rw [if_pos this]
  · have ho' : o = ⟨3, o.res, o.ext⟩ := by cases o; simp_all
    have hn : procIns t o.res = nm.1 := by
      unfold procIns
      rw [List.getD_eq_getElem?_getD, hp]; rfl
    unfold Netlist.drvNet
    rw [if_pos h3, wire_inst hp, hn]
    simp only
    rw [conn_output h hp he hk, ← ho']
    have : k = 0 ∨ k = 1 ∨ k = 2 := by omega
    rcases this with rfl | rfl | rfl <;> simp [triple, lineNet]

theorem wire_sinkRecv_ext {t : Topo} (h : WF t) (rs : Nat) {s : Bond} (hs : s ∈ t.iin) (hk1 : s.kind = 1) :
    (wire t rs).sinkRecv s = some (.recv s) := by
  obtain ⟨hs', hr⟩ := iin_ext h hs hk1
  unfold Netlist.sinkRecv
  rw [if_neg (by omega), if_pos (hs' ▸ mem_headerPorts_out hr)]

theorem iin_kind {t : Topo} (h : WF t) {s : Bond} (hs : s ∈ t.iin) : s.kind = 1 ∨ s.kind = 2 := by
  rcases (h.iin_mem s).mp hs with ⟨h1, _⟩ | ⟨h2, _⟩
  · exact Or.inl h1
  · exact Or.inr h2

/-- **the model of `Write_verilog_main` connects exactly the bonds** -/
theorem exact_wire {t : Topo} (h : WF t) (rs : Nat) : Exact (wire t rs) t where
  insts := wire_insts t rs
  drivers := fun _ ho _ hk => wire_drivers h rs ho hk
  sinkRecv := fun s hs => by
    rcases iin_kind h hs with h1 | h2
    · exact wire_sinkRecv_ext h rs hs h1
    · exact wire_sinkRecv_proc h rs hs h2
  sinkSrc := fun s hs k hk => by
    rcases iin_kind h hs with h1 | h2
    · exact wire_sinkSrc_ext h rs hs h1 hk
    · exact wire_sinkSrc_proc h rs hs h2 hk
  recv := fun _ _ ho => wire_recv h rs ho
  frame := wire_frame h rs

theorem exactB_iff (nl : Netlist) (t : Topo) : exactB nl t = true ↔ Exact nl t := by
  simp only [exactB, Bool.and_eq_true, Bool.or_eq_true, List.all_eq_true, List.any_eq_true, List.mem_range,
    beq_iff_eq, Prod.forall, List.mk_mem_zipIdx_iff_getElem?]
  constructor
  · rintro ⟨⟨⟨⟨⟨h1, h2⟩, h3⟩, h4⟩, h5⟩, h6⟩
    exact ⟨h1, h2, h3, h4, fun j o => h5 o j, fun a ha => by
      obtain ⟨n, r⟩ := a
      exact (h6 n r ha).imp (fun ⟨o, ho, e⟩ => ⟨o, ho, e⟩) (fun ⟨s, hs, ⟨hk, hd⟩, e⟩ => ⟨s, hs, hk, hd, e⟩)⟩
  · intro h
    exact ⟨⟨⟨⟨⟨h.insts, h.drivers⟩, h.sinkRecv⟩, h.sinkSrc⟩, fun o j => h.recv j o⟩, fun n r ha =>
      (h.frame _ ha).imp (fun ⟨o, ho, e⟩ => ⟨o, ho, e⟩) (fun ⟨s, hs, hk, hd, e⟩ => ⟨s, hs, ⟨hk, hd⟩, e⟩)⟩

/-! ### consequences -/

theorem mem_consumers {t : Topo} (h : WF t) {j : Nat} {o s : Bond} (ho : t.iout[j]? = some o) :
    s ∈ consumers t j ↔ (o, s) ∈ bonds t := by
  unfold consumers
  rw [List.mem_filterMap, mem_bonds]
  constructor
  · rintro ⟨⟨b, l⟩, hm, hb⟩
    simp only at hb
    split at hb
    · rename_i hl
      simp only [Option.some.injEq] at hb
      subst hb hl
      obtain ⟨i, hi, hl⟩ := mem_zip_iff.mp hm
      exact ⟨i, j, hi, hl, ho⟩
    · simp at hb
  · rintro ⟨i, j', hi, hl, ho'⟩
    have : j' = j := idx_unique h.iout_nodup ho' ho
    subst this
    exact ⟨(s, some j'), mem_zip_iff.mpr ⟨i, hi, hl⟩, by simp⟩

/-- the value of the `_received` line of an internal output under any valuation of the nets: the
    conjunction over its consumers, and 0 (undriven) when it has none -/
theorem recv_value {nl : Netlist} {t : Topo} (hx : Exact nl t) (env : Net → Bool) {j : Nat} {o : Bond}
    (ho : t.iout[j]? = some o) :
    nl.assigned env (.recv o) = (!(consumers t j).isEmpty && (consumers t j).all (fun c => env (.recv c))) := by
  unfold Netlist.assigned
  rw [hx.recv j o ho]
  unfold recvSpec
  cases hc : consumers t j with
  | nil => simp
  | cons a as =>
    cases as with
    | nil => simp [Rhs.eval]
    | cons b bs => simp [Rhs.eval, List.all_map, Function.comp_def]

end BMV.Bond

namespace BMV.Bm
open BMV.Topology

/-! ### the running `&&` of `VM.Step` -/

/-- the recv flags of the consumers of internal output `k`, in the order of `Links` -/
def recvsOf (ps : List (Option Nat × Bool)) (k : Nat) : List Bool :=
  ps.filterMap fun p => if p.1 = some k then some p.2 else none

/-- what the Go loop does to one map entry: first hit stores, later hits `&&` -/
def comb (x : Option Bool) (rs : List Bool) : Option Bool :=
  rs.foldl (fun acc r => some (match acc with | none => r | some v => v && r)) x

theorem lookup_recvUpd (m : List (Nat × Bool)) (j k : Nat) (r : Bool) :
    (recvUpd m j r).lookup k = if k = j then comb (m.lookup j) [r] else m.lookup k := by
  unfold recvUpd comb
  by_cases hk : k = j
  · subst hk
    cases h : m.lookup k <;> simp
  · have hb : (k == j) = false := by simp [hk]
    cases h : m.lookup j <;> simp [List.lookup_cons, hb, hk]

theorem lookup_recvFold (ps : List (Option Nat × Bool)) (m : List (Nat × Bool)) (k : Nat) :
    (recvFold ps m).lookup k = comb (m.lookup k) (recvsOf ps k) := by
  induction ps generalizing m with
  | nil => simp [recvFold, recvsOf, comb]
  | cons p ps ih =>
    obtain ⟨l, r⟩ := p
    unfold recvFold at ih ⊢
    simp only [List.foldl_cons]
    cases l with
    | none => simpa [recvsOf] using ih m
    | some j =>
      simp only
      rw [ih, lookup_recvUpd]
      by_cases hk : k = j
      · subst hk; simp [recvsOf, comb]
      · have : ¬ (some j = some k) := by simp; omega
        simp [hk, recvsOf, this]

theorem comb_some (v : Bool) (rs : List Bool) : comb (some v) rs = some (v && rs.all id) := by
  induction rs generalizing v with
  | nil => simp [comb]
  | cons r rs ih =>
    have : comb (some v) (r :: rs) = comb (some (v && r)) rs := by simp [comb]
    rw [this, ih]; simp [Bool.and_assoc]

theorem comb_none (rs : List Bool) : comb none rs = if rs = [] then none else some (rs.all id) := by
  cases rs with
  | nil => simp [comb]
  | cons r rs =>
    have : comb none (r :: rs) = comb (some r) rs := by simp [comb]
    rw [this, comb_some]; simp

/-- closed form of the map entry after the loop -/
theorem recvFold_closed (ps : List (Option Nat × Bool)) (k : Nat) :
    ((recvFold ps []).lookup k).getD false = (!(recvsOf ps k).isEmpty && (recvsOf ps k).all id) := by
  rw [lookup_recvFold]
  simp only [List.lookup_nil, comb_none]
  cases h : recvsOf ps k <;> simp

theorem recvsOf_perm {ps qs : List (Option Nat × Bool)} (h : ps.Perm qs) (k : Nat) :
    (recvsOf ps k).Perm (recvsOf qs k) := h.filterMap _

theorem all_perm {l₁ l₂ : List Bool} (h : l₁.Perm l₂) : l₁.all id = l₂.all id := by
  rw [Bool.eq_iff_iff]; simp only [List.all_eq_true]
  exact ⟨fun H x hx => H x (h.mem_iff.mpr hx), fun H x hx => H x (h.mem_iff.mp hx)⟩

theorem isEmpty_perm {α} {l₁ l₂ : List α} (h : l₁.Perm l₂) : l₁.isEmpty = l₂.isEmpty := h.isEmpty_eq

/-- the slots of `Links` that point at internal output `j` -/
def consumerSlots (links : List (Option Nat)) (j : Nat) : List Nat :=
  links.zipIdx.filterMap fun (l, i) => if l = some j then some i else none

theorem recvsOf_links (links : List (Option Nat)) (iiRecv : List Bool) (j : Nat) :
    recvsOf (links.zipIdx.map fun (l, i) => (l, iiRecv.getD i false)) j =
      (consumerSlots links j).map (fun i => iiRecv.getD i false) := by
  unfold recvsOf consumerSlots
  rw [List.filterMap_map, List.map_filterMap]
  apply BMV.Topology.filterMap_congr'
  rintro ⟨l, i⟩ _
  simp only [Function.comp]
  split <;> simp

/-- `portsIn` reads, for every processor input, exactly the net that `wire t` attaches to that
    port: the rtl composition goes through the emitted netlist -/
theorem portsIn_src {t : Topo} (h : WF t) (rs : Nat) (hs : HwState) (e : EnvIn) (p : Nat) (a : Arch) (k : Nat)
    (hk : k < a.n) (hmem : (⟨2, p, k⟩ : Bond) ∈ t.iin) :
    (portsIn t hs e p a).inputs[k]? = some
      (match (Bond.wire t rs).sinkSrc ⟨2, p, k⟩ 0 with
       | some (.data o) => if o ∈ t.iout then hwData hs e o else 0
       | _ => 0) := by
  have hx := (Bond.exact_wire h rs).sinkSrc _ hmem 0 (by omega)
  rw [hx]
  unfold portsIn Bond.srcSpec
  simp only [List.getElem?_map, List.getElem?_range hk, Option.map_some]
  cases hd : Bond.driverOf t ⟨2, p, k⟩ with
  | none =>
    simp only [driverOf, hd, Bond.lineNet, if_true]
    have : (⟨2, p, k⟩ : Bond) ∉ t.iout := fun ho => iin_iout_disjoint h hmem ho
    simp [this]
  | some o =>
    have ho : o ∈ t.iout := Bond.driverOf_mem h hmem hd
    simp [driverOf, hd, Bond.lineNet, ho]

end BMV.Bm
