/-
  Helper lemmas for C05, semantic half: the reference interpreter on the source (BMV.BasmSem) and
  the simulator on the assembled ROM (BMV.Isa) move in lock step.
-/
import BMV.BasmSem
import BMV.Proofs.Basm
import BMV.Proofs.WfBM
namespace BMV.Basm
open BMV BMV.Bits BMV.Encode

/-- a vector agrees with a map on its `n` cells -/
def Agrees {α : Type} (l : List α) (f : Nat → α) (n : Nat) : Prop :=
  l.length = n ∧ ∀ k, k < n → l[k]? = some (f k)

theorem Agrees.set {α : Type} {l : List α} {f : Nat → α} {n : Nat} (h : Agrees l f n) (k : Nat) (v : α) :
    Agrees (l.set k v) (upd f k v) n := by
  refine ⟨by simp [h.1], ?_⟩
  intro j hj
  by_cases hjk : j = k
  · subst hjk; simp [upd, h.1, hj]
  · rw [List.getElem?_set_ne (Ne.symm hjk)]
    simp [upd, hjk, h.2 j hj]

theorem Agrees.get {α : Type} {l : List α} {f : Nat → α} {n : Nat} (h : Agrees l f n) {k : Nat} (hk : k < n) :
    l[k]? = some (f k) := h.2 k hk

theorem Agrees.lt {α : Type} {l : List α} {f : Nat → α} {n : Nat} (h : Agrees l f n) {k : Nat} (hk : k < n) :
    k < l.length := h.1 ▸ hk

/-- the blocking-IO part of the simulation relation, over the fields it speaks about (so that it
    survives record updates of the other fields): the environment's valid / recv flags as the
    simulator's port vectors show them, output-valid and input-recv flags cell by cell, the same
    pending `recv` withdrawals -/
structure IoSim (a : Arch) (e : Env) (rov rir : Nat → Bool) (rdf : List Nat)
    (viv vov vir vor : List Bool) (vdf : List Nat) : Prop where
  iv : Agrees viv e.inValid a.n
  orr : Agrees vor e.outRecv a.m
  ov : Agrees vov rov a.m
  ir : Agrees vir rir a.n
  df : vdf = rdf
  dlt : ∀ i ∈ rdf, i < a.n

/-- the simulation relation: program counter ↔ position through `A`, register file and output
    ports cell by cell, input ports as the environment presents them, handshake state -/
structure Sim (a : Arch) (e : Env) (A : Nat → Nat) (r : RefState) (vm : VmState) : Prop where
  pc : vm.pc = A r.pos
  regs : Agrees vm.regs r.regs (2 ^ a.r)
  outs : Agrees vm.outputs r.outputs a.m
  ins : Agrees vm.inputs e.inputs a.n
  io : IoSim a e r.outValid r.inRecv r.deferred vm.inValid vm.outValid vm.inRecv vm.outRecv vm.deferred

theorem std64 {n : Nat} (h : Isa.stdSize n = true) : n ≤ 64 := by
  simp only [Isa.stdSize, Bool.or_eq_true, beq_iff_eq] at h; omega

/-! ### the reference interpreter, form by form -/

section execLine
variable {c : SecCtx} {e : Env} {s : RefState} {lb : List String} {io : Option IoMode} {op : String}

theorem execLine_nop (hop : op = "nop" ∨ op = "noop") :
    execLine c e ⟨lb, op, [], io⟩ s = some { s with pos := skip c.lines (s.pos + 1) } := by
  rcases hop with rfl | rfl <;> rfl

theorem execLine_rset {k n : Nat} (hop : op = "rset" ∨ op = "mov") :
    execLine c e ⟨lb, op, [.reg k, .num n], io⟩ s =
      if c.rsize ≤ 64 then some { s with pos := skip c.lines (s.pos + 1), regs := upd s.regs k n } else none := by
  rcases hop with rfl | rfl <;> rfl

theorem execLine_cpy {d r : Nat} (hop : op = "cpy" ∨ op = "mov") :
    execLine c e ⟨lb, op, [.reg d, .reg r], io⟩ s =
      some { s with pos := skip c.lines (s.pos + 1), regs := upd s.regs d (s.regs r) } := by
  rcases hop with rfl | rfl <;> rfl

theorem execLine_unop {k : Nat} (hop : op = "inc" ∨ op = "dec" ∨ op = "clr") :
    execLine c e ⟨lb, op, [.reg k], io⟩ s =
      (Isa.unop op c.rsize (s.regs k)).map fun v => { s with pos := skip c.lines (s.pos + 1), regs := upd s.regs k v } := by
  rcases hop with rfl | rfl | rfl <;>
    refine Eq.trans (b := if Isa.stdSize c.rsize = true then some _ else none) rfl ?_ <;>
    unfold Isa.unop <;> cases Isa.stdSize c.rsize <;> rfl

/-- `add`, `mult`, `div` mean what the simulator computes, where they mean anything -/
theorem execLine_binop {d r : Nat} {s' : RefState} (hop : op = "add" ∨ op = "mult" ∨ op = "div")
    (hex : execLine c e ⟨lb, op, [.reg d, .reg r], io⟩ s = some s') :
    ∃ v, Isa.binop op c.rsize (s.regs d) (s.regs r) = some v ∧
      s' = { s with pos := skip c.lines (s.pos + 1), regs := upd s.regs d v } := by
  rcases hop with rfl | rfl | rfl
  · obtain ⟨hstd, h⟩ := Option.ite_none_right_eq_some.mp (show (if Isa.stdSize c.rsize = true then some _ else none) = _ from hex)
    exact ⟨_, by simp [Isa.binop, hstd], (Option.some.inj h).symm⟩
  · obtain ⟨hstd, h⟩ := Option.ite_none_right_eq_some.mp (show (if Isa.stdSize c.rsize = true then some _ else none) = _ from hex)
    exact ⟨_, by simp [Isa.binop, hstd], (Option.some.inj h).symm⟩
  · obtain ⟨hstd, h⟩ := Option.ite_none_right_eq_some.mp
      (show (if (Isa.stdSize c.rsize && decide (s.regs r ≠ 0)) = true then some _ else none) = _ from hex)
    simp only [Bool.and_eq_true, decide_eq_true_eq] at hstd
    exact ⟨_, by simp [Isa.binop, hstd.1, hstd.2], (Option.some.inj h).symm⟩

theorem execLine_j {t : String} (hop : op = "j" ∨ op = "jmp") :
    execLine c e ⟨lb, op, [.sym t], io⟩ s = (labelPos c.lines t).map fun p => { s with pos := p } := by
  rcases hop with rfl | rfl <;> rfl

theorem execLine_jz {k : Nat} {t : String} :
    execLine c e ⟨lb, "jz", [.reg k, .sym t], io⟩ s =
      if Isa.stdSize c.rsize = true then
        (labelPos c.lines t).map fun p => if s.regs k = 0 then { s with pos := p } else { s with pos := skip c.lines (s.pos + 1) }
      else none := by rfl

theorem execLine_j_num {n : Nat} (hop : op = "j" ∨ op = "jmp") : execLine c e ⟨lb, op, [.num n], io⟩ s = none := by
  rcases hop with rfl | rfl <;> rfl

theorem execLine_jz_num {k n : Nat} : execLine c e ⟨lb, "jz", [.reg k, .num n], io⟩ s = none := by rfl

theorem execLine_i2r {k i : Nat} :
    execLine c e ⟨lb, "i2r", [.reg k, .inp i], io⟩ s = some (execIo e (skip c.lines (s.pos + 1)) s (.inAsync, k, i)) := by rfl

theorem execLine_i2rw {k i : Nat} :
    execLine c e ⟨lb, "i2rw", [.reg k, .inp i], io⟩ s = some (execIo e (skip c.lines (s.pos + 1)) s (.inSync, k, i)) := by rfl

theorem execLine_r2o {k o : Nat} :
    execLine c e ⟨lb, "r2o", [.reg k, .out o], io⟩ s = some (execIo e (skip c.lines (s.pos + 1)) s (.outAsync, k, o)) := by rfl

theorem execLine_r2owa {k o : Nat} :
    execLine c e ⟨lb, "r2owa", [.reg k, .out o], io⟩ s = some (execIo e (skip c.lines (s.pos + 1)) s (.outSync, k, o)) := by rfl

theorem execLine_mov_in {k i : Nat} {md : IoMode} (hmd : lineMode c.mode ⟨lb, "mov", [.reg k, .inp i], io⟩ = some md) :
    execLine c e ⟨lb, "mov", [.reg k, .inp i], io⟩ s =
      some (execIo e (skip c.lines (s.pos + 1)) s (match md with | .async => .inAsync | .sync => .inSync, k, i)) := by
  obtain ⟨_, _, _⟩ := c
  cases io <;> cases hmd <;> cases md <;> rfl

theorem execLine_mov_out {k o : Nat} {md : IoMode} (hmd : lineMode c.mode ⟨lb, "mov", [.out o, .reg k], io⟩ = some md) :
    execLine c e ⟨lb, "mov", [.out o, .reg k], io⟩ s =
      some (execIo e (skip c.lines (s.pos + 1)) s (match md with | .async => .outAsync | .sync => .outSync, k, o)) := by
  obtain ⟨_, _, _⟩ := c
  cases io <;> cases hmd <;> cases md <;> rfl

end execLine

/-! ### the simulator, opcode by opcode -/

section isa
variable {a : Arch} {plen : Nat} {body : Bits} {vm : VmState}

theorem isa_nop : Isa.exec a plen "nop" body vm = some { vm with pc := vm.pc + 1 } := by simp [Isa.exec]

theorem isa_rset (h64 : a.rsize ≤ 64) :
    Isa.exec a plen "rset" body vm =
      some { vm with pc := vm.pc + 1, regs := vm.regs.set (Isa.field body 0 a.r) (Isa.field body a.r a.rsize) } := by
  simp [Isa.exec, h64]

theorem isa_unop {op : String} (hop : op = "inc" ∨ op = "dec" ∨ op = "clr") {x v : Nat}
    (hx : vm.regs[Isa.field body 0 a.r]? = some x) (hv : Isa.unop op a.rsize x = some v) :
    Isa.exec a plen op body vm = some { vm with pc := vm.pc + 1, regs := vm.regs.set (Isa.field body 0 a.r) v } := by
  rcases hop with rfl | rfl | rfl <;> simp [Isa.exec, hx, hv]

theorem isa_binop {op : String} (hop : op = "add" ∨ op = "cpy" ∨ op = "mult" ∨ op = "div") {d s v : Nat}
    (hd : vm.regs[Isa.field body 0 a.r]? = some d) (hs : vm.regs[Isa.field body a.r a.r]? = some s)
    (hv : Isa.binop op a.rsize d s = some v) :
    Isa.exec a plen op body vm = some { vm with pc := vm.pc + 1, regs := vm.regs.set (Isa.field body 0 a.r) v } := by
  rcases hop with rfl | rfl | rfl | rfl <;> simp [Isa.exec, hd, hs, hv]

theorem isa_j (hv : Isa.field body 0 a.o < plen) :
    Isa.exec a plen "j" body vm = some { vm with pc := Isa.field body 0 a.o } := by simp [Isa.exec, Isa.pipeOps, hv]

theorem isa_jz {x : Nat} (hx : vm.regs[Isa.field body 0 a.r]? = some x) (hstd : Isa.stdSize a.rsize = true) :
    Isa.exec a plen "jz" body vm =
      some (if x = 0 then { vm with pc := Isa.field body a.r a.o } else { vm with pc := vm.pc + 1 }) := by
  simp [Isa.exec, Isa.pipeOps, hx, hstd]

theorem isa_i2r {v : Nat} (hv : vm.inputs[Isa.field body a.r a.inBits]? = some v) (hk : Isa.field body 0 a.r < vm.regs.length) :
    Isa.exec a plen "i2r" body vm = some { vm with pc := vm.pc + 1, regs := vm.regs.set (Isa.field body 0 a.r) v } := by
  simp [Isa.exec, Isa.pipeOps, hv, hk]

theorem isa_r2o {v : Nat} (hv : vm.regs[Isa.field body 0 a.r]? = some v) (ho : Isa.field body a.r a.outBits < vm.outputs.length) :
    Isa.exec a plen "r2o" body vm = some { vm with pc := vm.pc + 1, outputs := vm.outputs.set (Isa.field body a.r a.outBits) v } := by
  simp [Isa.exec, Isa.pipeOps, hv, ho]

/-- `i2rw`: idle while `valid` is low, waiting while the previous `recv` is still up, else the
    transfer, which raises `recv` and queues its withdrawal -/
theorem isa_i2rw {iv ir : Bool} {v : Nat} (hiv : vm.inValid[Isa.field body a.r a.inBits]? = some iv)
    (hv : vm.inputs[Isa.field body a.r a.inBits]? = some v) (hir : vm.inRecv[Isa.field body a.r a.inBits]? = some ir)
    (hk : Isa.field body 0 a.r < vm.regs.length) :
    Isa.exec a plen "i2rw" body vm =
      some (if iv then
              if ir then vm
              else { vm with pc := vm.pc + 1, regs := vm.regs.set (Isa.field body 0 a.r) v,
                             inRecv := vm.inRecv.set (Isa.field body a.r a.inBits) true,
                             deferred := if Isa.field body a.r a.inBits ∈ vm.deferred then vm.deferred
                                         else vm.deferred ++ [Isa.field body a.r a.inBits] }
            else { vm with inRecv := vm.inRecv.set (Isa.field body a.r a.inBits) false }) := by
  cases iv <;> cases ir <;> simp [Isa.exec, Isa.pipeOps, hiv, hv, hir, hk]

/-- `r2owa`: the value goes out with `valid` raised until `recv` answers; a `recv` that is up while
    `valid` is down is the previous transfer's and is waited out -/
theorem isa_r2owa {rc ov : Bool} {v : Nat} (hv : vm.regs[Isa.field body 0 a.r]? = some v)
    (hrc : vm.outRecv[Isa.field body a.r a.outBits]? = some rc) (hov : vm.outValid[Isa.field body a.r a.outBits]? = some ov)
    (ho : Isa.field body a.r a.outBits < vm.outputs.length) :
    Isa.exec a plen "r2owa" body vm =
      some (if rc then
              if ov then { vm with outputs := vm.outputs.set (Isa.field body a.r a.outBits) v,
                                   outValid := vm.outValid.set (Isa.field body a.r a.outBits) false, pc := vm.pc + 1 }
              else vm
            else { vm with outputs := vm.outputs.set (Isa.field body a.r a.outBits) v,
                           outValid := vm.outValid.set (Isa.field body a.r a.outBits) true }) := by
  cases rc <;> cases ov <;> simp [Isa.exec, Isa.pipeOps, hv, hrc, hov, ho]

end isa

/-! ### what an assembled word decodes to -/

/-- only the operand-less opcodes ignore the rest of their line -/
theorem not_lenient {op : String} {f : FieldKind} {fs : List FieldKind} (h : layout op = some (f :: fs)) :
    lenientArity op = false := by
  cases hl : lenientArity op with
  | false => rfl
  | true =>
    have : layout op = some [] :=
      (by decide +kernel : ∀ op ∈ ["clc", "cset", "dpc", "hlt", "je", "nop", "r2s", "s2r"], layout op = some [])
        op (by simpa [lenientArity] using hl)
    rw [this] at h; cases h

theorem asm_operands {a : Arch} {i : Instr} {w : Bits} {f : FieldKind} {fs : List FieldKind} (h : Encode.asm a i = .ok w)
    (hl : layout i.op = some (f :: fs)) : decOperands a (f :: fs) (w.drop a.opBits) = i.args := by
  have hd := BMV.Props.C03.disasm_asm a i w h
  obtain ⟨idx, hidx, hid, _⟩ := BMV.Props.C03.opcode_numbering a i w h
  unfold disasm at hd
  rw [hid] at hd
  simp only [hidx, hl] at hd
  have := congrArg Instr.args (Option.some.inj hd)
  simpa [normalise, not_lenient hl] using this

/-! the rows of `layout` for the two classes of register opcodes (single rows: `Encode.layout_*`) -/

theorem layout_unop {op : String} (hop : op = "inc" ∨ op = "dec" ∨ op = "clr") : layout op = some [.reg] := by
  rcases hop with rfl | rfl | rfl <;> decide +kernel
theorem layout_binop {op : String} (hop : op = "add" ∨ op = "cpy" ∨ op = "mult" ∨ op = "div") :
    layout op = some [.reg, .reg] := by
  rcases hop with rfl | rfl | rfl | rfl <;> decide +kernel

theorem resolved_of_asm {a : Arch} {op : String} {pre post : List Arg} {t : String} {tbl : List (String × Nat)} {w : Bits}
    (h : Encode.asm a ⟨op, (pre ++ Arg.sym t :: post).map (resolveArg tbl)⟩ = .ok w) (hlen : lenientArity op = false) :
    ∃ v, lookup tbl t = some v := by
  cases hv : lookup tbl t with
  | some v => exact ⟨v, rfl⟩
  | none =>
    exfalso
    obtain ⟨fs, hlay, hlen', hall⟩ := BMV.Props.C03.asm_operands_fit a _ w h
    have hx : (normalise ⟨op, (pre ++ Arg.sym t :: post).map (resolveArg tbl)⟩).args[pre.length]? = some .bad := by
      simp [normalise, hlen, resolveArg, hv]
    have hlt : pre.length < fs.length := by
      rw [hlen']; simp [normalise, hlen]
    obtain ⟨f, hf⟩ : ∃ f, fs[pre.length]? = some f := ⟨fs[pre.length], List.getElem?_eq_getElem hlt⟩
    have := (hall pre.length f .bad hf hx).2.2
    cases f <;> simp at this

/-- where the reference interpreter can be after one line: at the next instruction, at a label's
    instruction (a jump), or where it was (a blocking transfer that waits) -/
def PosNext (c : SecCtx) (r r' : RefState) : Prop :=
  r'.pos = skip c.lines (r.pos + 1) ∨ (∃ t, labelPos c.lines t = some r'.pos) ∨ r'.pos = r.pos

/-! ### one real instruction: the assembled word does to the simulator what the reference does -/

section sim
open BMV.WfBM
open BMV.Isa (field_lt)
variable {a : Arch} {c : SecCtx} {e : Env} {A : Nat → Nat} {plen : Nat} {w : Bits} {r r' : RefState} {vm : VmState}

theorem Sim.next (h : Sim a e A r vm) {p : Nat} (hp : A p = vm.pc + 1) :
    Sim a e A { r with pos := p } { vm with pc := vm.pc + 1 } := ⟨hp.symm, h.regs, h.outs, h.ins, h.io⟩

theorem Sim.jump (h : Sim a e A r vm) (p : Nat) : Sim a e A { r with pos := p } { vm with pc := A p } :=
  ⟨rfl, h.regs, h.outs, h.ins, h.io⟩

theorem Sim.setReg (h : Sim a e A r vm) {p : Nat} (hp : A p = vm.pc + 1) (k v : Nat) :
    Sim a e A { r with pos := p, regs := upd r.regs k v } { vm with pc := vm.pc + 1, regs := vm.regs.set k v } :=
  ⟨hp.symm, h.regs.set k v, h.outs, h.ins, h.io⟩

variable (hsim : Sim a e A r vm) (hnext : A (skip c.lines (r.pos + 1)) = vm.pc + 1)
include hsim hnext

variable {lb : List String} {io : Option IoMode}

theorem sim_nop {op : String} (hop : op = "nop" ∨ op = "noop") (hex : execLine c e ⟨lb, op, [], io⟩ r = some r') :
    ∃ vm', Isa.exec a plen "nop" (w.drop a.opBits) vm = some vm' ∧ Sim a e A r' vm' ∧ PosNext c r r' := by
  rw [execLine_nop hop] at hex; cases hex
  exact ⟨_, isa_nop, hsim.next hnext, .inl rfl⟩

theorem sim_rset {op : String} (hop : op = "rset" ∨ op = "mov") {k n : Nat} (hrs : a.rsize = c.rsize)
    (hex : execLine c e ⟨lb, op, [.reg k, .num n], io⟩ r = some r') (h : Encode.asm a ⟨"rset", [.reg k, .num n]⟩ = .ok w) :
    ∃ vm', Isa.exec a plen "rset" (w.drop a.opBits) vm = some vm' ∧ Sim a e A r' vm' ∧ PosNext c r r' := by
  rw [execLine_rset hop, ← hrs] at hex
  obtain ⟨h64, hr⟩ := Option.ite_none_right_eq_some.mp hex
  cases hr
  have hf := asm_operands h layout_rset
  rw [dec_rv] at hf; cases hf
  exact ⟨_, isa_rset h64, hsim.setReg hnext _ _, .inl rfl⟩

theorem sim_unop {op : String} (hop : op = "inc" ∨ op = "dec" ∨ op = "clr") {k : Nat} (hrs : a.rsize = c.rsize)
    (hex : execLine c e ⟨lb, op, [.reg k], io⟩ r = some r') (h : Encode.asm a ⟨op, [.reg k]⟩ = .ok w) :
    ∃ vm', Isa.exec a plen op (w.drop a.opBits) vm = some vm' ∧ Sim a e A r' vm' ∧ PosNext c r r' := by
  rw [execLine_unop hop, ← hrs] at hex
  obtain ⟨v, hv, rfl⟩ := Option.map_eq_some_iff.mp hex
  have hf := asm_operands h (layout_unop hop)
  rw [dec_r] at hf; cases hf
  exact ⟨_, isa_unop hop (hsim.regs.get (field_lt _ _ _)) hv, hsim.setReg hnext _ _, .inl rfl⟩

theorem sim_binop {op : String} (hop : op = "add" ∨ op = "cpy" ∨ op = "mult" ∨ op = "div") {d s v : Nat}
    (h : Encode.asm a ⟨op, [.reg d, .reg s]⟩ = .ok w) (hv : Isa.binop op a.rsize (r.regs d) (r.regs s) = some v)
    (hr : r' = { r with pos := skip c.lines (r.pos + 1), regs := upd r.regs d v }) :
    ∃ vm', Isa.exec a plen op (w.drop a.opBits) vm = some vm' ∧ Sim a e A r' vm' ∧ PosNext c r r' := by
  have hf := asm_operands h (layout_binop hop)
  rw [dec_rr] at hf; cases hf; subst hr
  exact ⟨_, isa_binop hop (hsim.regs.get (field_lt _ _ _)) (hsim.regs.get (field_lt _ _ _)) hv,
    hsim.setReg hnext _ _, .inl rfl⟩

omit hsim hnext in
theorem exec_j {v : Nat} (h : Encode.asm a ⟨"j", [.num v]⟩ = .ok w) (hmode : a.mode = .ha) (hv : v < plen) :
    Isa.exec a plen "j" (w.drop a.opBits) vm = some { vm with pc := v } := by
  have hf := asm_operands h layout_j
  rw [dec_l a hmode] at hf; cases hf
  exact isa_j hv

omit hnext in
theorem sim_j {op : String} (hop : op = "j" ∨ op = "jmp") {t : String} {tbl : List (String × Nat)}
    (hex : execLine c e ⟨lb, op, [.sym t], io⟩ r = some r')
    (h : Encode.asm a ⟨"j", [resolveArg tbl (.sym t)]⟩ = .ok w) (hmode : a.mode = .ha)
    (hlab : ∀ p v, labelPos c.lines t = some p → lookup tbl t = some v → v = A p ∧ v < plen) :
    ∃ vm', Isa.exec a plen "j" (w.drop a.opBits) vm = some vm' ∧ Sim a e A r' vm' ∧ PosNext c r r' := by
  rw [execLine_j hop] at hex
  obtain ⟨p, hp, rfl⟩ := Option.map_eq_some_iff.mp hex
  obtain ⟨v, hv⟩ := resolved_of_asm (pre := []) (post := []) h (not_lenient layout_j)
  obtain ⟨rfl, hvl⟩ := hlab p v hp hv
  simp only [resolveArg, hv] at h
  exact ⟨_, exec_j h hmode hvl, hsim.jump p, .inr (.inl ⟨t, hp⟩)⟩

theorem sim_jz {k : Nat} {t : String} {tbl : List (String × Nat)} (hrs : a.rsize = c.rsize)
    (hex : execLine c e ⟨lb, "jz", [.reg k, .sym t], io⟩ r = some r')
    (h : Encode.asm a ⟨"jz", [.reg k, resolveArg tbl (.sym t)]⟩ = .ok w)
    (hlab : ∀ p v, labelPos c.lines t = some p → lookup tbl t = some v → v = A p ∧ v < plen) :
    ∃ vm', Isa.exec a plen "jz" (w.drop a.opBits) vm = some vm' ∧ Sim a e A r' vm' ∧ PosNext c r r' := by
  rw [execLine_jz, ← hrs] at hex
  obtain ⟨hstd, hex⟩ := Option.ite_none_right_eq_some.mp hex
  obtain ⟨p, hp, rfl⟩ := Option.map_eq_some_iff.mp hex
  obtain ⟨v, hv⟩ := resolved_of_asm (pre := [.reg k]) (post := []) h (not_lenient layout_jz)
  obtain ⟨hva, _⟩ := hlab p v hp hv
  simp only [resolveArg, hv] at h
  have hf := asm_operands h layout_jz
  rw [dec_ra] at hf; cases hf
  refine ⟨_, isa_jz (hsim.regs.get (field_lt _ _ _)) hstd, ?_⟩
  split
  · exact ⟨by rw [hva]; exact hsim.jump p, .inr (.inl ⟨t, hp⟩)⟩
  · exact ⟨hsim.next hnext, .inl rfl⟩

omit hsim hnext in
theorem fields_in {op : String} (hop : op = "i2r" ∨ op = "i2rw") {k i : Nat}
    (h : Encode.asm a ⟨op, [.reg k, .inp i]⟩ = .ok w) :
    Isa.field (w.drop a.opBits) 0 a.r = k ∧ Isa.field (w.drop a.opBits) a.r a.inBits = i ∧ i < a.n := by
  have hl : layout op = some [.reg, .inp] := hop.elim (· ▸ layout_i2r) (· ▸ layout_i2rw)
  have hf := asm_operands h hl
  rw [dec_ri] at hf; cases hf
  exact ⟨rfl, rfl, (BMV.Props.C03.asm_rejects_bad_index a _ w h 1 _ hl).2.1 _ rfl (by simp [normalise, not_lenient hl])⟩

omit hsim hnext in
theorem fields_out {op : String} (hop : op = "r2o" ∨ op = "r2owa") {k o : Nat}
    (h : Encode.asm a ⟨op, [.reg k, .out o]⟩ = .ok w) :
    Isa.field (w.drop a.opBits) 0 a.r = k ∧ Isa.field (w.drop a.opBits) a.r a.outBits = o ∧ o < a.m := by
  have hl : layout op = some [.reg, .out] := hop.elim (· ▸ layout_r2o) (· ▸ layout_r2owa)
  have hf := asm_operands h hl
  rw [dec_ro] at hf; cases hf
  exact ⟨rfl, rfl, (BMV.Props.C03.asm_rejects_bad_index a _ w h 1 _ hl).2.2.1 _ rfl (by simp [normalise, not_lenient hl])⟩

theorem sim_i2r {k i : Nat} (h : Encode.asm a ⟨"i2r", [.reg k, .inp i]⟩ = .ok w)
    (hr : r' = execIo e (skip c.lines (r.pos + 1)) r (.inAsync, k, i)) :
    ∃ vm', Isa.exec a plen "i2r" (w.drop a.opBits) vm = some vm' ∧ Sim a e A r' vm' ∧ PosNext c r r' := by
  obtain ⟨rfl, rfl, hi⟩ := fields_in (.inl rfl) h
  subst hr
  exact ⟨_, isa_i2r (hsim.ins.get hi) (hsim.regs.lt (field_lt _ _ _)), hsim.setReg hnext _ _, .inl rfl⟩

theorem sim_r2o {k o : Nat} (h : Encode.asm a ⟨"r2o", [.reg k, .out o]⟩ = .ok w)
    (hr : r' = execIo e (skip c.lines (r.pos + 1)) r (.outAsync, k, o)) :
    ∃ vm', Isa.exec a plen "r2o" (w.drop a.opBits) vm = some vm' ∧ Sim a e A r' vm' ∧ PosNext c r r' := by
  obtain ⟨rfl, rfl, ho⟩ := fields_out (.inl rfl) h
  subst hr
  exact ⟨_, isa_r2o (hsim.regs.get (field_lt _ _ _)) (hsim.outs.lt ho),
    ⟨hnext.symm, hsim.regs, hsim.outs.set _ _, hsim.ins, hsim.io⟩, .inl rfl⟩

theorem sim_i2rw {k i : Nat} (h : Encode.asm a ⟨"i2rw", [.reg k, .inp i]⟩ = .ok w)
    (hr : r' = execIo e (skip c.lines (r.pos + 1)) r (.inSync, k, i)) :
    ∃ vm', Isa.exec a plen "i2rw" (w.drop a.opBits) vm = some vm' ∧ Sim a e A r' vm' ∧ PosNext c r r' := by
  obtain ⟨rfl, rfl, hi⟩ := fields_in (.inr rfl) h
  obtain ⟨hpc, hregs, houts, hins, hio⟩ := hsim
  have hiv := hio.iv.get hi
  have hir := hio.ir.get hi
  subst hr
  simp only [execIo]
  cases hv : e.inValid _ with
  | false =>
    rw [hv] at hiv
    simp only [Bool.false_eq_true, ↓reduceIte]
    exact ⟨_, isa_i2rw hiv (hins.get hi) hir (hregs.lt (field_lt _ _ _)),
      ⟨hpc, hregs, houts, hins, ⟨hio.iv, hio.orr, hio.ov, hio.ir.set _ false, hio.df, hio.dlt⟩⟩, .inr (.inr rfl)⟩
  | true =>
    rw [hv] at hiv
    cases hrc : r.inRecv _ with
    | true =>
      rw [hrc] at hir
      simp only [↓reduceIte]
      exact ⟨_, isa_i2rw hiv (hins.get hi) hir (hregs.lt (field_lt _ _ _)), ⟨hpc, hregs, houts, hins, hio⟩, .inr (.inr rfl)⟩
    | false =>
      rw [hrc] at hir
      simp only [Bool.false_eq_true, ↓reduceIte]
      refine ⟨_, isa_i2rw hiv (hins.get hi) hir (hregs.lt (field_lt _ _ _)),
        ⟨hnext.symm, hregs.set _ _, houts, hins, ⟨hio.iv, hio.orr, hio.ov, hio.ir.set _ true, hio.df ▸ rfl, ?_⟩⟩, .inl rfl⟩
      intro j hj
      split at hj
      · exact hio.dlt j hj
      · rcases List.mem_append.mp hj with hj | hj
        · exact hio.dlt j hj
        · rw [List.mem_singleton.mp hj]; exact hi

theorem sim_r2owa {k o : Nat} (h : Encode.asm a ⟨"r2owa", [.reg k, .out o]⟩ = .ok w)
    (hr : r' = execIo e (skip c.lines (r.pos + 1)) r (.outSync, k, o)) :
    ∃ vm', Isa.exec a plen "r2owa" (w.drop a.opBits) vm = some vm' ∧ Sim a e A r' vm' ∧ PosNext c r r' := by
  obtain ⟨rfl, rfl, ho⟩ := fields_out (.inr rfl) h
  obtain ⟨hpc, hregs, houts, hins, hio⟩ := hsim
  have hv := hregs.get (field_lt (w.drop a.opBits) 0 a.r)
  have hrc := hio.orr.get ho
  have hov := hio.ov.get ho
  subst hr
  simp only [execIo]
  cases hrv : e.outRecv _ with
  | false =>
    rw [hrv] at hrc
    refine ⟨_, isa_r2owa hv hrc hov (houts.lt ho), ?_, .inr (.inr ?_)⟩ <;> simp
    exact ⟨hpc, hregs, houts.set _ _, hins, ⟨hio.iv, hio.orr, hio.ov.set _ true, hio.ir, hio.df, hio.dlt⟩⟩
  | true =>
    rw [hrv] at hrc
    cases hvo : r.outValid _ with
    | false =>
      rw [hvo] at hov
      refine ⟨_, isa_r2owa hv hrc hov (houts.lt ho), ?_, .inr (.inr ?_)⟩ <;> simp
      exact ⟨hpc, hregs, houts, hins, hio⟩
    | true =>
      rw [hvo] at hov
      refine ⟨_, isa_r2owa hv hrc hov (houts.lt ho), ?_, .inl ?_⟩ <;> simp
      exact ⟨hnext.symm, hregs, houts.set _ _, hins, ⟨hio.iv, hio.orr, hio.ov.set _ false, hio.ir, hio.df, hio.dlt⟩⟩

end sim

/-- the proof of `Props.C05.mov_matcher_effect` (stated and described there): one case per alternative
    of `matchLine`, the reference's equation for the source form, then the lemma of the real instruction -/
theorem exec_matches {a : Arch} {c : SecCtx} {e : Env} {A : Nat → Nat} {plen : Nat} {l : Line} {op : String}
    {args : List Arg} {tbl : List (String × Nat)} {w : Bits} {r r' : RefState} {vm : VmState}
    (hm : matchLine c.mode l = some (op, args))
    (hasm : Encode.asm a ⟨op, args.map (resolveArg tbl)⟩ = .ok w)
    (hmode : a.mode = .ha) (hrs : a.rsize = c.rsize)
    (hsim : Sim a e A r vm)
    (hnext : A (skip c.lines (r.pos + 1)) = vm.pc + 1)
    (hlab : ∀ t p v, labelPos c.lines t = some p → lookup tbl t = some v → v = A p ∧ v < plen)
    (hex : execLine c e l r = some r') :
    ∃ vm', Isa.exec a plen op (w.drop a.opBits) vm = some vm' ∧ Sim a e A r' vm' ∧ PosNext c r r' := by
  obtain ⟨lb, lop, largs, io⟩ := l
  unfold matchLine at hm; dsimp only at hm
  -- the goals come in the order of `matchLine`'s alternatives; every case restates the real
  -- instruction of its alternative (on `hm`) and the source form (through the equation it uses on
  -- `hex`), so a changed table breaks the proof at the case concerned
  split at hm
  case h_1 => cases (hm : some ("nop", []) = some (op, args)); exact sim_nop hsim hnext (.inl rfl) hex
  case h_2 => cases (hm : some ("nop", []) = some (op, args)); exact sim_nop hsim hnext (.inr rfl) hex
  case h_3 k n => cases (hm : some ("rset", [Arg.reg k, .num n]) = some (op, args)); exact sim_rset hsim hnext (.inl rfl) hrs hex hasm
  case h_4 k n => cases (hm : some ("rset", [Arg.reg k, .num n]) = some (op, args)); exact sim_rset hsim hnext (.inr rfl) hrs hex hasm   -- mov reg, number
  case h_5 d s =>   -- cpy
    cases (hm : some ("cpy", [Arg.reg d, .reg s]) = some (op, args)); rw [execLine_cpy (.inl rfl)] at hex
    exact sim_binop hsim hnext (.inr (.inl rfl)) hasm rfl (Option.some.inj hex).symm
  case h_6 d s =>   -- mov reg, reg
    cases (hm : some ("cpy", [Arg.reg d, .reg s]) = some (op, args)); rw [execLine_cpy (.inr rfl)] at hex
    exact sim_binop hsim hnext (.inr (.inl rfl)) hasm rfl (Option.some.inj hex).symm
  case h_7 k => cases (hm : some ("inc", [Arg.reg k]) = some (op, args)); exact sim_unop hsim hnext (.inl rfl) hrs hex hasm
  case h_8 k => cases (hm : some ("dec", [Arg.reg k]) = some (op, args)); exact sim_unop hsim hnext (.inr (.inl rfl)) hrs hex hasm
  case h_9 k => cases (hm : some ("clr", [Arg.reg k]) = some (op, args)); exact sim_unop hsim hnext (.inr (.inr rfl)) hrs hex hasm
  case h_10 d s =>   -- add
    cases (hm : some ("add", [Arg.reg d, .reg s]) = some (op, args)); obtain ⟨v, hv, hr⟩ := execLine_binop (.inl rfl) hex
    exact sim_binop hsim hnext (.inl rfl) hasm (hrs ▸ hv) hr
  case h_11 d s =>   -- mult
    cases (hm : some ("mult", [Arg.reg d, .reg s]) = some (op, args)); obtain ⟨v, hv, hr⟩ := execLine_binop (.inr (.inl rfl)) hex
    exact sim_binop hsim hnext (.inr (.inr (.inl rfl))) hasm (hrs ▸ hv) hr
  case h_12 d s =>   -- div
    cases (hm : some ("div", [Arg.reg d, .reg s]) = some (op, args)); obtain ⟨v, hv, hr⟩ := execLine_binop (.inr (.inr rfl)) hex
    exact sim_binop hsim hnext (.inr (.inr (.inr rfl))) hasm (hrs ▸ hv) hr
  case h_13 n => rw [execLine_j_num (.inl rfl)] at hex; cases hex   -- j <number>
  case h_14 t => cases (hm : some ("j", [Arg.sym t]) = some (op, args)); exact sim_j hsim (.inl rfl) hex hasm hmode (hlab t)
  case h_15 n => rw [execLine_j_num (.inr rfl)] at hex; cases hex   -- jmp <number>
  case h_16 t => cases (hm : some ("j", [Arg.sym t]) = some (op, args)); exact sim_j hsim (.inr rfl) hex hasm hmode (hlab t)
  case h_17 k n => rw [execLine_jz_num] at hex; cases hex   -- jz reg, <number>
  case h_18 k t => cases (hm : some ("jz", [Arg.reg k, .sym t]) = some (op, args)); exact sim_jz hsim hnext hrs hex hasm (hlab t)
  case h_19 k i =>   -- i2r
    cases (hm : some ("i2r", [Arg.reg k, .inp i]) = some (op, args)); exact sim_i2r hsim hnext hasm (Option.some.inj (execLine_i2r.symm.trans hex)).symm
  case h_20 k i =>   -- i2rw
    cases (hm : some ("i2rw", [Arg.reg k, .inp i]) = some (op, args)); exact sim_i2rw hsim hnext hasm (Option.some.inj (execLine_i2rw.symm.trans hex)).symm
  case h_21 k o =>   -- r2o
    cases (hm : some ("r2o", [Arg.reg k, .out o]) = some (op, args)); exact sim_r2o hsim hnext hasm (Option.some.inj (execLine_r2o.symm.trans hex)).symm
  case h_22 k o =>   -- r2owa
    cases (hm : some ("r2owa", [Arg.reg k, .out o]) = some (op, args)); exact sim_r2owa hsim hnext hasm (Option.some.inj (execLine_r2owa.symm.trans hex)).symm
  case h_23 k i =>   -- mov reg, input
    cases hmd : lineMode c.mode ⟨lb, "mov", [.reg k, .inp i], io⟩ with
    | none => rw [hmd] at hm; cases hm
    | some md =>
      rw [hmd] at hm; rw [execLine_mov_in hmd] at hex
      cases md
      · cases (hm : some ("i2r", [Arg.reg k, .inp i]) = some (op, args))
        exact sim_i2r hsim hnext hasm (Option.some.inj hex).symm
      · cases (hm : some ("i2rw", [Arg.reg k, .inp i]) = some (op, args))
        exact sim_i2rw hsim hnext hasm (Option.some.inj hex).symm
  case h_24 o k =>   -- mov output, reg
    cases hmd : lineMode c.mode ⟨lb, "mov", [.out o, .reg k], io⟩ with
    | none => rw [hmd] at hm; cases hm
    | some md =>
      rw [hmd] at hm; rw [execLine_mov_out hmd] at hex
      cases md
      · cases (hm : some ("r2o", [Arg.reg k, .out o]) = some (op, args))
        exact sim_r2o hsim hnext hasm (Option.some.inj hex).symm
      · cases (hm : some ("r2owa", [Arg.reg k, .out o]) = some (op, args))
        exact sim_r2owa hsim hnext hasm (Option.some.inj hex).symm
  case h_25 => cases hm

/-! ### positions, addresses, labels -/

theorem addr_cons (x : Line) (xs : List Line) (p : Nat) :
    addr (x :: xs) (p + 1) = addr xs p + (if isEntry x = true then 0 else 1) := by
  unfold addr
  rw [List.take_succ_cons, List.filter_cons]
  cases isEntry x <;> simp

theorem filter_getElem?_addr : ∀ (ls : List Line) (p : Nat) (l : Line), ls[p]? = some l → isEntry l = false →
    (ls.filter fun l => !isEntry l)[addr ls p]? = some l
  | [], p, l, h, _ => by simp at h
  | x :: xs, 0, l, h, hne => by
    simp at h; subst h
    simp [addr, hne]
  | x :: xs, p + 1, l, h, hne => by
    have ih := filter_getElem?_addr xs p l (by simpa using h) hne
    rw [addr_cons]
    cases hx : isEntry x <;> simpa [List.filter_cons, hx] using ih

theorem filter_index_inv : ∀ (ls : List Line) (i : Nat) (l : Line),
    (ls.filter fun l => !isEntry l)[i]? = some l → ∃ p, ls[p]? = some l ∧ isEntry l = false ∧ addr ls p = i
  | [], i, l, h => by simp at h
  | x :: xs, i, l, h => by
    by_cases hx : isEntry x = true
    · simp only [List.filter_cons, hx, Bool.not_true, Bool.false_eq_true, if_false] at h
      obtain ⟨p, h1, h2, h3⟩ := filter_index_inv xs i l h
      exact ⟨p + 1, h1, h2, by rw [addr_cons, h3]; simp [hx]⟩
    · have hx' : isEntry x = false := by simpa using hx
      simp only [List.filter_cons, hx', Bool.not_false, if_true] at h
      cases i with
      | zero =>
        simp at h; subst h
        exact ⟨0, by simp, hx', by simp [addr]⟩
      | succ i =>
        obtain ⟨p, h1, h2, h3⟩ := filter_index_inv xs i l (by simpa using h)
        exact ⟨p + 1, h1, h2, by rw [addr_cons, h3]; simp [hx']⟩

theorem addr_le (ls : List Line) (p : Nat) : addr ls p ≤ (ls.filter fun l => !isEntry l).length := by
  unfold addr
  exact List.Sublist.length_le (List.Sublist.filter _ (List.take_sublist p ls))

theorem addr_length (ls : List Line) : addr ls ls.length = (ls.filter fun l => !isEntry l).length := by
  simp [addr]

theorem addr_succ {ls : List Line} {p : Nat} {l : Line} (hl : ls[p]? = some l) :
    addr ls (p + 1) = addr ls p + (if isEntry l = true then 0 else 1) := by
  unfold addr
  rw [List.take_add_one, List.filter_append, List.length_append]
  simp only [hl, Option.toList_some, List.filter_cons, List.filter_nil]
  cases isEntry l <;> simp

theorem addr_skip (ls : List Line) (p : Nat) : addr ls (skip ls p) = addr ls p := by
  unfold skip
  cases hl : ls[p]? with
  | none => rfl
  | some l =>
    simp only
    by_cases he : isEntry l = true
    · simp only [he, if_true]; rw [addr_succ hl]; simp [he]
    · simp [he]

theorem skip_eq_self {ls : List Line} {p : Nat} {l : Line} (hl : ls[p]? = some l) (hne : isEntry l = false) :
    skip ls p = p := by
  unfold skip; rw [hl]; simp [hne]

theorem labelPos_some {ls : List Line} {t : String} {p : Nat} (h : labelPos ls t = some p) :
    ∃ q l, ls[q]? = some l ∧ t ∈ l.labels ∧ p = skip ls q := by
  obtain ⟨q, hq, rfl⟩ := Option.map_eq_some_iff.mp h
  obtain ⟨hql, hqt, _⟩ := List.findIdx?_eq_some_iff_getElem.mp hq
  exact ⟨q, _, List.getElem?_eq_getElem hql, by simpa using hqt, rfl⟩

theorem labelPos_isSome {ls : List Line} {t : String} {l : Line} (hl : l ∈ ls) (ht : t ∈ l.labels) :
    ∃ p, labelPos ls t = some p := by
  unfold labelPos
  cases hq : ls.findIdx? (fun l => l.labels.contains t) with
  | some q => exact ⟨_, rfl⟩
  | none => simpa [ht] using List.findIdx?_eq_none_iff.mp hq l hl

theorem label_after_entry_removal_aux {ls ls' : List Line} {mode : Option IoMode} {rs : List RLine}
    (h1 : removeEntry ls = .ok ls') (h2 : matchLines mode ls' = .ok rs) (hnd : hasDup (allLabels ls) = false)
    {p : Nat} {l : Line} (hl : ls[p]? = some l) (hne : isEntry l = false) :
    (∃ r : RLine, rs[addr ls p]? = some r ∧ r.labels = l.labels ∧ matchLine mode l = some (r.op, r.args)) ∧
    ∀ s ∈ l.labels, lookup (labelTable rs) s = some (addr ls p) := by
  have he := removeEntry_eq h1
  subst he
  have hget := filter_getElem?_addr ls p l hl hne
  obtain ⟨r, hr, hrl, hm⟩ := matchLines_get h2 _ l hget
  refine ⟨⟨r, hr, hrl, hm⟩, ?_⟩
  intro s hs
  have hnd' : (rs.flatMap (·.labels)).Nodup := by
    rw [matchLines_labels h2]
    exact List.Nodup.sublist (filter_flatMap_sublist _ _ ls) ((hasDup_false_iff _).mp hnd)
  exact lookup_labelTable hnd' hr (by rw [hrl]; exact hs)

theorem skip_not_entry {ls : List Line} (hone : (ls.filter isEntry).length ≤ 1) (p : Nat) (l : Line)
    (h : ls[skip ls p]? = some l) : isEntry l = false := by
  unfold skip at h
  cases hl : ls[p]? with
  | none => simp [hl] at h
  | some x =>
    simp only [hl] at h
    by_cases he : isEntry x = true
    · simp only [he, if_true] at h
      cases hl' : isEntry l with
      | false => rfl
      | true =>
        exfalso
        -- two directives, at p and p+1
        have hcat : ls.take (p + 1 + 1) = ls.take p ++ [x] ++ [l] := by
          rw [List.take_add_one, List.take_add_one, hl, h]; simp
        rw [← List.take_append_drop (p + 1 + 1) ls, hcat] at hone
        simp [List.filter_append, he, hl'] at hone
        omega
    · have he' : isEntry x = false := by simpa using he
      simp only [he', Bool.false_eq_true, if_false] at h
      rw [hl] at h; cases h
      exact he'

/-! ### one tick -/

theorem runDeferred_nil (vm : VmState) (h : vm.deferred = []) : Isa.runDeferred vm = vm := by
  cases vm; simp only at h; subst h; simp [Isa.runDeferred]

theorem foldl_set_agrees {α : Type} (v : α) (n : Nat) : ∀ (is : List Nat) (l : List α) (f : Nat → α),
    Agrees l f n → Agrees (is.foldl (fun l i => l.set i v) l) (is.foldl (fun f i => upd f i v) f) n
  | [], _, _, h => h
  | i :: is, l, f, h => by
    simp only [List.foldl_cons]
    exact foldl_set_agrees v n is _ _ (h.set i v)

theorem deferred_sim {a : Arch} {e : Env} {A : Nat → Nat} {r : RefState} {vm : VmState} (h : Sim a e A r vm) :
    Sim a e A (refDeferred e r) (Isa.runDeferred vm) := by
  obtain ⟨hpc, hregs, houts, hins, hio⟩ := h
  have hdf : vm.deferred = r.deferred := hio.df
  have hp1 : ∀ i ∈ r.deferred, decide (vm.inValid[i]? = some false) = (e.inValid i == false) := by
    intro i hi
    rw [hio.iv.get (hio.dlt i hi)]
    cases e.inValid i <;> simp
  have hp2 : ∀ i ∈ r.deferred, decide (vm.inValid[i]? ≠ some false) = (e.inValid i != false) := by
    intro i hi
    rw [hio.iv.get (hio.dlt i hi)]
    cases e.inValid i <;> simp
  have hf1 : vm.deferred.filter (fun i => decide (vm.inValid[i]? = some false)) = r.deferred.filter (fun i => e.inValid i == false) := by
    rw [hdf]; exact List.filter_congr hp1
  have hf2 : vm.deferred.filter (fun i => decide (vm.inValid[i]? ≠ some false)) = r.deferred.filter (fun i => e.inValid i != false) := by
    rw [hdf]; exact List.filter_congr hp2
  refine ⟨hpc, hregs, houts, hins, ?_⟩
  simp only [Isa.runDeferred, refDeferred]
  refine ⟨hio.iv, hio.orr, hio.ov, ?_, hf2, ?_⟩
  · rw [hf1]; exact foldl_set_agrees false a.n _ _ _ hio.ir
  · intro i hi
    exact hio.dlt i (List.mem_filter.mp hi).1

/-- positions the reference interpreter can be at: an instruction, or just past the last line -/
def PosOk (ls : List Line) (p : Nat) : Prop := p ≤ ls.length ∧ ∀ l, ls[p]? = some l → isEntry l = false

theorem removeEntry_one {ls ls' : List Line} (h : removeEntry ls = .ok ls') : (ls.filter isEntry).length ≤ 1 := by
  unfold removeEntry at h
  split at h
  · rename_i e he; simp [he]
  · cases h

theorem skip_le {ls : List Line} {p : Nat} (h : p ≤ ls.length) : skip ls p ≤ ls.length := by
  unfold skip
  cases hl : ls[p]? with
  | none => exact h
  | some l =>
    have := (List.getElem?_eq_some_iff.mp hl).1
    simp only; split <;> omega

theorem posOk_skip {ls : List Line} (h : (ls.filter isEntry).length ≤ 1) {p : Nat} (hp : p ≤ ls.length) : PosOk ls (skip ls p) :=
  ⟨skip_le hp, fun l hl => skip_not_entry h p l hl⟩

theorem posOk_label {ls : List Line} (h : (ls.filter isEntry).length ≤ 1) {t : String} {p : Nat}
    (hp : labelPos ls t = some p) : PosOk ls p := by
  obtain ⟨q, _, hq, _, rfl⟩ := labelPos_some hp
  exact posOk_skip h (Nat.le_of_lt (List.getElem?_eq_some_iff.mp hq).1)

/-- what the lock-step proof needs to know about how a section's lines were laid out in the ROM:
    `δ` = 0, or 1 when the repaired pipeline placed a jump to the entry at address 0 -/
structure Layout (c : SecCtx) (rs : List RLine) (δ : Nat) : Prop where
  one : (c.lines.filter isEntry).length ≤ 1
  line : ∀ p l, c.lines[p]? = some l → isEntry l = false →
    ∃ r0 : RLine, rs[δ + addr c.lines p]? = some r0 ∧ matchLine c.mode l = some (r0.op, r0.args)
  label : ∀ t p v, labelPos c.lines t = some p → lookup (labelTable rs) t = some v → v = δ + addr c.lines p ∧ v < rs.length
  len : rs.length = δ + (c.lines.filter fun l => !isEntry l).length

/-- the hypotheses that make `ws` the ROM assembled for the section `c` -/
structure Assembled (c : SecCtx) (rs : List RLine) (a : Arch) (ws : List Bits) (δ : Nat) : Prop where
  lay : Layout c rs δ
  arch : a = mkArch c.rsize rs
  prog : asmAll a (resolve rs) = .ok ws

section run
variable {c : SecCtx} {rs : List RLine} {a : Arch} {ws : List Bits} {δ : Nat}

/-- the proof of `Props.C05.step_correct` (stated and described there) -/
theorem step_correct_aux {e : Env} {r r' : RefState} {vm : VmState} (hA : Assembled c rs a ws δ)
    (hsim : Sim a e (fun p => δ + addr c.lines p) r vm) (hpos : PosOk c.lines r.pos) (hex : refStep c e r = some r') :
    ∃ vm', Isa.step a ws vm = some vm' ∧ Sim a e (fun p => δ + addr c.lines p) r' vm' ∧ PosOk c.lines r'.pos := by
  obtain ⟨⟨hone, hline, hlabel, hlen⟩, harch, hprog⟩ := hA
  have hwl := asmAll_length hprog
  unfold refStep at hex
  unfold Isa.step
  have hpcle : ¬ vm.pc > ws.length := by
    rw [hsim.pc, hwl, hlen]
    have := addr_le c.lines r.pos
    omega
  simp only [hpcle, if_false]
  have hsim1 := deferred_sim hsim
  have hpos1 : (refDeferred e r).pos = r.pos := rfl
  generalize refDeferred e r = r1 at hex hsim1 hpos1
  generalize Isa.runDeferred vm = vm1 at hsim1
  rw [← hpos1] at hpos
  cases hl : c.lines[r1.pos]? with
  | none =>
    simp only [hl] at hex
    split at hex
    · rename_i hend
      cases hex
      have hpc : vm1.pc = ws.length := by rw [hsim1.pc, hwl, hlen, hend, addr_length]
      have : ws[vm1.pc]? = none := by rw [hpc]; simp
      simp only [this]
      exact ⟨vm1, rfl, hsim1, hpos⟩
    · cases hex
  | some l =>
    simp only [hl] at hex
    have hne : isEntry l = false := hpos.2 l hl
    simp only [hne, Bool.false_eq_true, if_false] at hex
    obtain ⟨r0, hr0, hm0⟩ := hline _ l hl hne
    obtain ⟨w, hw, hasm, hop⟩ := asmAll_word hprog hr0
    rw [← hsim1.pc] at hw
    simp only [hw, hop]
    have hplt : r1.pos < c.lines.length := (List.getElem?_eq_some_iff.mp hl).1
    obtain ⟨vm', hv1, hv2, hv3⟩ := exec_matches (plen := ws.length) hm0 hasm
      (by rw [harch]; rfl) (by rw [harch]; rfl) hsim1
      (by rw [addr_skip, addr_succ hl, hsim1.pc]; simp [hne]; omega)
      (fun t p v hp hv => by
        have := hlabel t p v hp hv
        exact ⟨this.1, by rw [hwl]; exact this.2⟩)
      hex
    refine ⟨vm', hv1, hv2, ?_⟩
    rcases hv3 with h | ⟨t, ht⟩ | h
    · rw [h]; exact posOk_skip hone (by omega)
    · exact posOk_label hone ht
    · rw [h]; exact hpos

/-! ### runs -/

/-- the environment's values presented on the simulator's port vectors -/
def envVm (a : Arch) (e : Env) (vm : VmState) : VmState :=
  { vm with inputs := (List.range a.n).map e.inputs, inValid := (List.range a.n).map e.inValid,
            outRecv := (List.range a.m).map e.outRecv }

/-- the simulator on the assembled ROM under an environment stream -/
def isaRun (a : Arch) (ws : List Bits) (env : Nat → Env) : Nat → Option VmState
  | 0 => some (Isa.init a)
  | t + 1 => (isaRun a ws env t).bind fun vm => Isa.step a ws (envVm a (env t) vm)

theorem agrees_range_map {α : Type} (f : Nat → α) (n : Nat) : Agrees ((List.range n).map f) f n := by
  refine ⟨by simp, ?_⟩
  intro k hk
  simp [hk]

theorem agrees_replicate {α : Type} (v : α) (n : Nat) : Agrees (List.replicate n v) (fun _ => v) n := by
  refine ⟨by simp, ?_⟩
  intro k hk
  simp [hk]

/-- between ticks the environment may present anything: related states stay related under every
    environment shown on the simulator's port vectors (this is the invariant of a run) -/
theorem Sim.env {a : Arch} {e : Env} {A : Nat → Nat} {r : RefState} {vm : VmState} (h : Sim a e A r vm) (e' : Env) :
    Sim a e' A r (envVm a e' vm) :=
  ⟨h.pc, h.regs, h.outs, agrees_range_map _ _,
    ⟨agrees_range_map _ _, agrees_range_map _ _, h.io.ov, h.io.ir, h.io.df, h.io.dlt⟩⟩

theorem init_sim (a : Arch) (A : Nat → Nat) (p : Nat) (pc : Nat) (h : pc = A p) (e : Env) :
    Sim a e A { pos := p, regs := fun _ => 0, outputs := fun _ => 0, outValid := fun _ => false, inRecv := fun _ => false, deferred := [] }
      (envVm a e { Isa.init a with pc := pc }) :=
  ⟨h, agrees_replicate 0 _, agrees_replicate 0 _, agrees_range_map _ _,
    ⟨agrees_range_map _ _, agrees_range_map _ _, agrees_replicate false _, agrees_replicate false _, rfl,
      by intro i hi; cases hi⟩⟩

theorem run_step (hA : Assembled c rs a ws δ)
    {e : Env} {r r' : RefState} {vm : VmState}
    (hsim : ∀ e, Sim a e (fun p => δ + addr c.lines p) r (envVm a e vm)) (hpos : PosOk c.lines r.pos)
    (hex : refStep c e r = some r') :
    ∃ vm', Isa.step a ws (envVm a e vm) = some vm' ∧
      (∀ e, Sim a e (fun p => δ + addr c.lines p) r' (envVm a e vm')) ∧ PosOk c.lines r'.pos := by
  obtain ⟨vm', h1, h2, h3⟩ := step_correct_aux hA (hsim e) hpos hex
  exact ⟨vm', h1, h2.env, h3⟩

theorem startPos_eq_labelPos {ls : List Line} {e : Line} {s : String} (hfe : ls.filter isEntry = [e])
    (hargs : e.args = [.sym s]) : startPos ls = labelPos ls s := by
  unfold startPos; rw [← List.head?_filter, hfe]; simp only [List.head?_cons, hargs]

theorem startPos_posOk {ls : List Line} (hone : (ls.filter isEntry).length ≤ 1) {p : Nat} (hs : startPos ls = some p) : PosOk ls p := by
  unfold startPos at hs
  split at hs
  · split at hs
    · exact posOk_label hone hs
    · cases hs
  · cases hs

/-- LOCK STEP, every finite run: if the simulator, `d` ticks ahead under a stream that is then the
    reference interpreter's, has reached a state related to the reference's initial one, the two
    stay related tick by tick for ever -/
theorem run_lockstep (hA : Assembled c rs a ws δ)
    {env senv : Nat → Env} {d : Nat} (henv : ∀ t, senv (t + d) = env t)
    (h0 : ∀ p, startPos c.lines = some p → ∃ vm, isaRun a ws senv d = some vm ∧
      ∀ e, Sim a e (fun p => δ + addr c.lines p)
        { pos := p, regs := fun _ => 0, outputs := fun _ => 0, outValid := fun _ => false, inRecv := fun _ => false, deferred := [] }
        (envVm a e vm)) :
    ∀ (t : Nat) (r : RefState), refRun c env t = some r →
      ∃ vm, isaRun a ws senv (t + d) = some vm ∧ (∀ e, Sim a e (fun p => δ + addr c.lines p) r (envVm a e vm)) ∧
        PosOk c.lines r.pos := by
  intro t
  induction t with
  | zero =>
    intro r hr
    obtain ⟨p, hs, rfl⟩ := Option.map_eq_some_iff.mp hr
    obtain ⟨vm, hvm, hst⟩ := h0 p hs
    exact ⟨vm, by rw [Nat.zero_add]; exact hvm, hst, startPos_posOk hA.lay.one hs⟩
  | succ t ih =>
    intro r' hr'
    obtain ⟨r, hr, hstep⟩ := Option.bind_eq_some_iff.mp hr'
    obtain ⟨vm, hvm, hst, hpos⟩ := ih r hr
    obtain ⟨vm', h1, h2, h3⟩ := run_step hA hst hpos hstep
    refine ⟨vm', ?_, h2, h3⟩
    rw [Nat.add_right_comm]
    show (isaRun a ws senv (t + d)).bind (fun vm => Isa.step a ws (envVm a (senv (t + d)) vm)) = some vm'
    rw [hvm, henv]; exact h1

/-- no jump placed at address 0 (`δ = 0`): the entry label's address is 0 and both sides start there -/
theorem run_correct_zero (hA : Assembled c rs a ws 0)
    (hentry : ∀ p, startPos c.lines = some p → addr c.lines p = 0) (env : Nat → Env) :
    ∀ (t : Nat) (r : RefState), refRun c env t = some r →
      ∃ vm, isaRun a ws env t = some vm ∧ (∀ e, Sim a e (fun p => 0 + addr c.lines p) r (envVm a e vm)) ∧
        PosOk c.lines r.pos :=
  run_lockstep hA (d := 0) (fun _ => rfl) fun p hs =>
    ⟨Isa.init a, rfl, init_sim a _ p 0 (by simp [hentry p hs])⟩

/-- the simulator's environment stream when one tick is spent on the jump at address 0: whatever
    `e0` the ports show during that tick, then the reference interpreter's stream -/
def delayEnv (e0 : Env) (env : Nat → Env) : Nat → Env
  | 0 => e0
  | k + 1 => env k

/-- with the jump the repaired pipeline places at address 0 (`δ = 1`): the simulator spends its
    first tick on that jump (the reference interpreter, which starts at the entry label, does not
    move), then the two run in lock step, the simulator one tick behind and every address one higher. -/
theorem run_correct_one (hA : Assembled c rs a ws 1)
    {s : String} (hj : rs[0]? = some ⟨[], "j", [.sym s]⟩) (hstart : startPos c.lines = labelPos c.lines s)
    (e0 : Env) (env : Nat → Env) :
    ∀ (t : Nat) (r : RefState), refRun c env t = some r →
      ∃ vm, isaRun a ws (delayEnv e0 env) (t + 1) = some vm ∧ (∀ e, Sim a e (fun p => 1 + addr c.lines p) r (envVm a e vm)) ∧
        PosOk c.lines r.pos := by
  refine run_lockstep hA (d := 1) (fun _ => rfl) fun p hs => ?_
  obtain ⟨hlay, harch, hprog⟩ := hA
  have hwl := asmAll_length hprog
  obtain ⟨w, hw, hasm, hop⟩ := asmAll_word hprog hj
  obtain ⟨v, hv⟩ := resolved_of_asm (pre := []) (post := []) hasm (not_lenient layout_j)
  obtain ⟨hva, hvl⟩ := hlay.label s p v (hstart ▸ hs) hv
  simp only [List.map_cons, List.map_nil, resolveArg, hv] at hasm
  have hexec := exec_j (plen := ws.length) (vm := envVm a e0 (Isa.init a)) hasm (by rw [harch]; rfl) (by rw [hwl]; exact hvl)
  refine ⟨{ envVm a e0 (Isa.init a) with pc := v }, ?_, init_sim a (fun p => 1 + addr c.lines p) p v hva⟩
  simp only [isaRun, Option.bind_some, delayEnv]
  unfold Isa.step
  have h0 : (envVm a e0 (Isa.init a)).pc = 0 := rfl
  have hd : (envVm a e0 (Isa.init a)).deferred = [] := rfl
  simp only [h0, runDeferred_nil _ hd, Nat.not_lt_zero, gt_iff_lt, if_false, hw, hop]
  exact hexec

end run

/-! ### the two pipelines lay a section out as `Layout` says -/

theorem labelTable_cons_nolabel (r : RLine) (rs : List RLine) (h : r.labels = []) :
    labelTable (r :: rs) = (labelTable rs).map (fun x => (x.1, x.2 + 1)) := by
  unfold labelTable
  rw [List.zipIdx_cons']
  simp only [List.flatMap_cons, h, List.map_nil, List.nil_append, List.flatMap_map, List.map_flatMap, List.map_map]
  congr 1

theorem lookup_shift (tbl : List (String × Nat)) (t : String) :
    lookup (tbl.map (fun x => (x.1, x.2 + 1))) t = (lookup tbl t).map (· + 1) := by
  unfold lookup
  induction tbl with
  | nil => rfl
  | cons x xs ih =>
    simp only [List.map_cons, List.find?_cons]
    by_cases hx : (x.1 == t) = true
    · simp [hx]
    · simp only [hx]; exact ih

theorem filter_noentry_self : ∀ (ls : List Line), (ls.filter isEntry).length = 0 → (ls.filter fun l => !isEntry l) = ls
  | [], _ => rfl
  | x :: xs, h => by
    by_cases hx : isEntry x = true
    · simp [hx] at h
    · have hx' : isEntry x = false := by simpa using hx
      simp only [List.filter_cons, hx', Bool.false_eq_true, if_false] at h
      simp only [List.filter_cons, hx', Bool.not_false, if_true]
      rw [filter_noentry_self xs h]

/-- the kept line `l'` at address `i` against the source instruction `l` with that address: the
    same instruction, and every label is its own or one written on the directive just before it -/
structure KeptLine (ls : List Line) (i : Nat) (l' l : Line) : Prop where
  op : l'.op = l.op
  args : l'.args = l.args
  iomode : l'.iomode = l.iomode
  labels : ∀ t, t ∈ l'.labels →
    t ∈ l.labels ∨ ∃ (q : Nat) (e : Line), ls[q]? = some e ∧ isEntry e = true ∧ t ∈ e.labels ∧ addr ls q = i

/-- `ls'` is `ls` without its directive, line by line -/
structure Kept (ls ls' : List Line) : Prop where
  len : ls'.length = (ls.filter fun l => !isEntry l).length
  line : ∀ (i : Nat) (l' : Line), ls'[i]? = some l' →
    ∃ l : Line, (ls.filter fun l => !isEntry l)[i]? = some l ∧ KeptLine ls i l' l

theorem kept_filter (ls : List Line) : Kept ls (ls.filter fun l => !isEntry l) :=
  ⟨rfl, fun _ l' hl' => ⟨l', hl', rfl, rfl, rfl, fun _ ht => .inl ht⟩⟩

theorem kept_dropEntry : ∀ {ls ls' : List Line}, dropEntry ls = some ls' → (ls.filter isEntry).length ≤ 1 → Kept ls ls'
  | [], ls', h, _ => by
    simp [dropEntry] at h; subst h
    exact ⟨rfl, fun i l' hl => by simp at hl⟩
  | x :: rest, ls', h, hone => by
    simp only [dropEntry] at h
    by_cases hx : isEntry x = true
    · simp only [hx, if_true] at h
      have hrest : (rest.filter isEntry).length = 0 := by
        simp only [List.filter_cons, hx, if_true, List.length_cons] at hone; omega
      have hF : ((x :: rest).filter fun l => !isEntry l) = rest := by
        simp only [List.filter_cons, hx, Bool.not_true, Bool.false_eq_true, if_false]
        exact filter_noentry_self rest hrest
      by_cases hl : x.labels.isEmpty = true
      · simp only [hl, if_true, Option.some.injEq] at h; subst h
        have := kept_filter (x :: rest)
        rwa [hF] at this
      · simp only [hl] at h
        cases rest with
        | nil => simp at h
        | cons n rest' =>
          simp only [Bool.false_eq_true, if_false, Option.some.injEq] at h; subst h
          refine ⟨by rw [hF]; simp, ?_⟩
          rw [hF]
          intro i l' hl'
          cases i with
          | zero =>
            simp only [List.getElem?_cons_zero, Option.some.injEq] at hl'; subst hl'
            refine ⟨n, by simp, rfl, rfl, rfl, ?_⟩
            intro t ht
            rcases List.mem_append.mp ht with ht | ht
            · exact Or.inl ht
            · exact Or.inr ⟨0, x, by simp, hx, ht, by simp [addr]⟩
          | succ i =>
            simp only [List.getElem?_cons_succ] at hl'
            exact ⟨l', by simpa using hl', rfl, rfl, rfl, fun t ht => Or.inl ht⟩
    · have hx' : isEntry x = false := by simpa using hx
      simp only [hx', Bool.false_eq_true, if_false] at h
      cases hd : dropEntry rest with
      | none => simp [hd] at h
      | some r =>
        simp only [hd, Option.map_some, Option.some.injEq] at h; subst h
        have hone' : (rest.filter isEntry).length ≤ 1 := by
          simpa [List.filter_cons, hx'] using hone
        obtain ⟨hlen, hpt⟩ := kept_dropEntry hd hone'
        have hF : ((x :: rest).filter fun l => !isEntry l) = x :: (rest.filter fun l => !isEntry l) := by
          simp [hx']
        refine ⟨by rw [hF]; simp [hlen], ?_⟩
        rw [hF]
        intro i l' hl'
        cases i with
        | zero =>
          simp only [List.getElem?_cons_zero, Option.some.injEq] at hl'; subst hl'
          exact ⟨x, by simp, rfl, rfl, rfl, fun t ht => Or.inl ht⟩
        | succ i =>
          simp only [List.getElem?_cons_succ] at hl'
          obtain ⟨l, h1, hkl⟩ := hpt i l' hl'
          refine ⟨l, by simpa using h1, hkl.op, hkl.args, hkl.iomode, ?_⟩
          intro t ht
          rcases hkl.labels t ht with h | ⟨q, e, hq, he, hte, hqa⟩
          · exact Or.inl h
          · refine Or.inr ⟨q + 1, e, by simpa using hq, he, hte, ?_⟩
            rw [addr_cons, hqa]; simp [hx']

theorem matchLine_congr (mode : Option IoMode) {l1 l2 : Line} (h1 : l1.op = l2.op) (h2 : l1.args = l2.args)
    (h3 : l1.iomode = l2.iomode) : matchLine mode l1 = matchLine mode l2 := by
  unfold matchLine lineMode; rw [h1, h2, h3]

theorem label_addr_of_kept {ls ls' : List Line} (hk : Kept ls ls') (hnd : hasDup (allLabels ls) = false)
    {t : String} {i : Nat} {l' : Line} (hl' : ls'[i]? = some l') (ht : t ∈ l'.labels)
    {p : Nat} (hp : labelPos ls t = some p) : addr ls p = i := by
  obtain ⟨l, hF, hkl⟩ := hk.line i l' hl'
  obtain ⟨q, lq, hq, hqt, rfl⟩ := labelPos_some hp
  rcases hkl.labels t ht with h | ⟨q', e, hq', he, hte, hqa⟩
  · obtain ⟨p', hp1, hp2, hp3⟩ := filter_index_inv ls i l hF
    cases line_label_unique hnd hq hp1 hqt h
    rw [skip_eq_self hp1 hp2]; exact hp3
  · cases line_label_unique hnd hq hq' hqt hte
    rw [addr_skip]; exact hqa

section layout
variable {c : SecCtx} {rs : List RLine}

/-- both pipelines, before any jump is placed at address 0: the instructions in order, every label
    at the address of the instruction it denotes -/
theorem layout_kept {ls' : List Line} (hk : Kept c.lines ls')
    (hone : (c.lines.filter isEntry).length ≤ 1) (hml : matchLines c.mode ls' = .ok rs)
    (hnd : hasDup (allLabels c.lines) = false) : Layout c rs 0 := by
  obtain ⟨hlen, hpt⟩ := hk
  have hrl := matchLines_length hml
  refine ⟨hone, ?_, ?_, by rw [hrl, hlen]; simp⟩
  · intro p l hl hne
    have hF := filter_getElem?_addr c.lines p l hl hne
    have hlt : addr c.lines p < ls'.length := by rw [hlen]; exact (List.getElem?_eq_some_iff.mp hF).1
    obtain ⟨l2, hF2, hkl⟩ := hpt _ _ (List.getElem?_eq_getElem hlt)
    rw [hF] at hF2; cases hF2
    obtain ⟨r0, hr0, _, hm⟩ := matchLines_get hml _ _ (List.getElem?_eq_getElem hlt)
    exact ⟨r0, by simpa using hr0, by rw [← matchLine_congr c.mode hkl.op hkl.args hkl.iomode]; exact hm⟩
  · intro t p v hp hv
    have hlt := lookup_lt hv
    obtain ⟨r0, hr0, ht0⟩ := mem_labelTable.mp (mem_of_find_fst hv)
    have hv' : v < ls'.length := by omega
    obtain ⟨r1, hr1, hlab1, _⟩ := matchLines_get hml v ls'[v] (List.getElem?_eq_getElem hv')
    rw [hr0] at hr1; cases hr1
    have := label_addr_of_kept ⟨hlen, hpt⟩ hnd (List.getElem?_eq_getElem hv') (by rw [← hlab1]; exact ht0) hp
    exact ⟨by simp [this], hlt⟩

/-- unchanged pipeline: the directive is filtered out, nothing else moves -/
theorem layout_unfixed {ls' : List Line} (hre : removeEntry c.lines = .ok ls')
    (hml : matchLines c.mode ls' = .ok rs) (hnd : hasDup (allLabels c.lines) = false) : Layout c rs 0 :=
  layout_kept (removeEntry_eq hre ▸ kept_filter c.lines) (removeEntry_one hre) hml hnd

theorem layout_shift (h : Layout c rs 0) (r : RLine) (hr : r.labels = []) :
    Layout c (r :: rs) 1 := by
  obtain ⟨hone, hline, hlabel, hlen⟩ := h
  refine ⟨hone, ?_, ?_, by simp [hlen]; omega⟩
  · intro p l hl hne
    obtain ⟨r0, hr0, hm⟩ := hline p l hl hne
    refine ⟨r0, ?_, hm⟩
    rw [Nat.add_comm 1, List.getElem?_cons_succ]; simpa using hr0
  · intro t p v hp hv
    rw [labelTable_cons_nolabel r rs hr, lookup_shift] at hv
    cases hv0 : lookup (labelTable rs) t with
    | none => simp [hv0] at hv
    | some v0 =>
      simp only [hv0, Option.map_some, Option.some.injEq] at hv
      obtain ⟨h1, h2⟩ := hlabel t p v0 hp hv0
      simp only [Nat.zero_add] at h1
      exact ⟨by omega, by simp; omega⟩

/-- how many ticks the simulator spends before the reference interpreter's first instruction: one
    (the jump at address 0) exactly when the entry label is not on the first instruction -/
def entryDelay (ls : List Line) : Nat := if entryFirst ls then 0 else 1

/-- REPAIRED PIPELINE: what `removeEntryFix` + `matchLines` give is a `Layout` with
    `δ = entryDelay`, and the run theorems' side conditions hold. -/
theorem layout_fixed {ls'' : List Line} (hre : removeEntryFix c.lines = .ok ls'')
    (hml : matchLines c.mode ls'' = .ok rs) (hnd : hasDup (allLabels c.lines) = false) :
    Layout c rs (entryDelay c.lines) ∧
    ((entryDelay c.lines = 0 ∧ ∀ p, startPos c.lines = some p → addr c.lines p = 0) ∨
     (entryDelay c.lines = 1 ∧ ∃ s, rs[0]? = some ⟨[], "j", [.sym s]⟩ ∧ startPos c.lines = labelPos c.lines s)) := by
  obtain ⟨e, s, ls', k, hfe, hargs, hdrop, hidx, rfl⟩ := removeEntryFix_ok hre
  have hone : (c.lines.filter isEntry).length ≤ 1 := by simp [hfe]
  have hk := kept_dropEntry hdrop hone
  have hstart := startPos_eq_labelPos hfe hargs
  obtain ⟨hkl, hkt, _⟩ := List.findIdx?_eq_some_iff_getElem.mp hidx
  have hkt' : s ∈ ls'[k].labels := by simpa using hkt
  have haddr : ∀ p, startPos c.lines = some p → addr c.lines p = k := fun p hp =>
    label_addr_of_kept hk hnd (List.getElem?_eq_getElem hkl) hkt' (hstart ▸ hp)
  -- the entry label resolves: it is on a kept line, so on a source line
  obtain ⟨p0, hp0⟩ : ∃ p, startPos c.lines = some p := by
    rw [hstart]
    obtain ⟨l, hF, hline⟩ := hk.line k _ (List.getElem?_eq_getElem hkl)
    rcases hline.labels s hkt' with h | ⟨q', e', hq', _, hte, _⟩
    · exact labelPos_isSome (List.mem_filter.mp (List.mem_of_getElem? hF)).1 h
    · exact labelPos_isSome (List.mem_of_getElem? hq') hte
  have hd : entryDelay c.lines = if k = 0 then 0 else 1 := by
    simp [entryDelay, entryFirst, hp0, haddr p0 hp0]
  rw [hd]
  cases k with
  | zero => exact ⟨layout_kept hk hone hml hnd, .inl ⟨rfl, haddr⟩⟩
  | succ k =>
    obtain ⟨op, args, rs', hm, hml', rfl⟩ := matchLines_cons hml
    cases (show matchLine c.mode { op := "j", args := [.sym s] } = some ("j", [.sym s]) from rfl).symm.trans hm
    exact ⟨layout_shift (layout_kept hk hone hml' hnd) _ rfl, .inr ⟨rfl, s, rfl, hstart⟩⟩

end layout

/-! ### from `assemble` to `Assembled` -/

/-- the i-th processor of an accepted source is `mkCP` of the prepared body of a section that the
    i-th `cpdef` names -/
theorem assemble_cp {src : Source} {fix : Bool} {bm : BM} (h : assemble src fix = .ok bm) {i : Nat} {c : CpDef} {cp : CP}
    (hc : src.procs[i]? = some c) (hcp : bm.cps[i]? = some cp) :
    ∃ sec ∈ src.sections, sec.name = c.romcode ∧ ∃ rs, prepSection fix src.iomode sec = .ok rs ∧
      mkCP bm.rsize rs = .ok cp ∧ src.rsize = some bm.rsize ∧ hasDup (allLabels sec.lines) = false := by
  obtain ⟨rsize, ss, bodies, cps, hrs, _, _, hdup, hss, hb, _, hmk, rfl⟩ := assemble_ok_inv h
  have hb2 := mapE_ok hb
  have hi : i < bodies.length := hb2.length_eq ▸ (List.getElem?_eq_some_iff.mp hc).1
  have hbi : bodies[i]? = some bodies[i] := List.getElem?_eq_getElem hi
  obtain ⟨sec, hsec, hsp⟩ := All2.mem_right (mapE_ok hss) _ (cpBody_ok (hb2.get i c _ hc hbi))
  obtain ⟨hname, hp⟩ := secPrep_ok hsp
  exact ⟨sec, hsec, hname, _, hp, (mapE_ok hmk).get i _ cp hbi hcp, hrs,
    by simpa using List.any_eq_false.mp hdup sec hsec⟩

/-- … which is what `Assembled` asks for: the unchanged pipeline lays the section out with `δ = 0` -/
theorem assembled_of_assemble {src : Source} {bm : BM} (h : assemble src false = .ok bm) {i : Nat} {c : CpDef} {cp : CP}
    (hc : src.procs[i]? = some c) (hcp : bm.cps[i]? = some cp) :
    ∃ sec ∈ src.sections, sec.name = c.romcode ∧ ∃ rs, Assembled (SecCtx.of src sec) rs cp.arch cp.prog 0 := by
  obtain ⟨sec, hsec, hname, rs, hprep, hmk, hrs, hnd⟩ := assemble_cp h hc hcp
  obtain ⟨ws, hws, rfl⟩ := mkCP_ok hmk
  obtain ⟨ls', hre, hml⟩ := prepSection_ok hprep
  exact ⟨sec, hsec, hname, rs, layout_unfixed (c := SecCtx.of src sec) hre hml hnd, by simp [SecCtx.of, hrs], hws⟩

/-- … and the repaired pipeline with `δ = entryDelay`, together with the side conditions of the
    run theorems -/
theorem assembled_of_assemble_fix {src : Source} {bm : BM} (h : assemble src true = .ok bm) {i : Nat} {c : CpDef} {cp : CP}
    (hc : src.procs[i]? = some c) (hcp : bm.cps[i]? = some cp) :
    ∃ sec ∈ src.sections, sec.name = c.romcode ∧ ∃ rs,
      Assembled (SecCtx.of src sec) rs cp.arch cp.prog (entryDelay sec.lines) ∧
      ((entryDelay sec.lines = 0 ∧ ∀ p, startPos sec.lines = some p → addr sec.lines p = 0) ∨
       (entryDelay sec.lines = 1 ∧ ∃ s, rs[0]? = some ⟨[], "j", [.sym s]⟩ ∧ startPos sec.lines = labelPos sec.lines s)) := by
  obtain ⟨sec, hsec, hname, rs, hprep, hmk, hrs, hnd⟩ := assemble_cp h hc hcp
  obtain ⟨ws, hws, rfl⟩ := mkCP_ok hmk
  obtain ⟨ls', hre, hml⟩ := prepSection_ok hprep
  obtain ⟨hlay, hside⟩ := layout_fixed (c := SecCtx.of src sec) hre hml hnd
  exact ⟨sec, hsec, hname, rs, ⟨hlay, by simp [SecCtx.of, hrs], hws⟩, hside⟩

/-! ### several processors -/

theorem netStepFrom_get {net : List (Topology.Bond × Topology.Bond)} {ext : ExtEnv} {hold : Nat → Bool} {all : List RefState} :
    ∀ (p : Nat) (cs : List SecCtx) (ss ss' : List RefState), cs.length = ss.length →
      netStepFrom net ext hold all p cs ss = some ss' →
      ss'.length = ss.length ∧
      ∀ (i : Nat) (c : SecCtx) (s : RefState), cs[i]? = some c → ss[i]? = some s →
        ∃ s', ss'[i]? = some s' ∧ (if hold (p + i) then some s else refStep c (envFor net ext all (p + i)) s) = some s'
  | p, [], [], ss', _, h => by
    cases h
    exact ⟨rfl, fun i c s hc => by simp at hc⟩
  | p, c :: cs, s :: ss, ss', hlen, h => by
    simp only [netStepFrom] at h
    split at h
    · rename_i s1 rest h1 h2
      cases h
      obtain ⟨hl, hget⟩ := netStepFrom_get (p + 1) cs ss rest (Nat.succ.inj hlen) h2
      refine ⟨congrArg (· + 1) hl, ?_⟩
      intro i c' s' hc hs
      cases i with
      | zero =>
        cases hc; cases hs
        exact ⟨s1, rfl, h1⟩
      | succ i =>
        obtain ⟨s2, h3, h4⟩ := hget i c' s' hc hs
        exact ⟨s2, h3, by rw [show p + (i + 1) = p + 1 + i by omega]; exact h4⟩
    · cases h
  | p, [], _ :: _, _, hlen, _ => by cases hlen
  | p, _ :: _, [], _, hlen, _ => by cases hlen

theorem initAll_get : ∀ (cs : List SecCtx) (ss : List RefState), initAll cs = some ss →
    ss.length = cs.length ∧ ∀ (i : Nat) (c : SecCtx), cs[i]? = some c → ∃ s, ss[i]? = some s ∧ refInit c = some s
  | [], ss, h => by cases h; exact ⟨rfl, fun i c hc => by simp at hc⟩
  | c :: cs, ss, h => by
    simp only [initAll] at h
    split at h
    · rename_i s rest h1 h2
      cases h
      obtain ⟨hl, hget⟩ := initAll_get cs rest h2
      refine ⟨congrArg (· + 1) hl, ?_⟩
      intro i c' hc
      cases i with
      | zero => cases hc; exact ⟨s, rfl, h1⟩
      | succ i => exact hget i c' hc
    · cases h

/-- the proof of `Props.C05.network_component` (stated and described there) -/
theorem net_component (ctxs : List SecCtx) (net : List (Topology.Bond × Topology.Bond)) (ext : Nat → ExtEnv) :
    ∀ (t : Nat) (sts : List RefState), netRun ctxs net ext t = some sts →
      sts.length = ctxs.length ∧
      ∀ (p : Nat) (c : SecCtx), ctxs[p]? = some c →
        ∃ s, sts[p]? = some s ∧ refRun c (inducedEnv ctxs net ext p) t = some s := by
  intro t
  induction t with
  | zero =>
    intro sts h
    obtain ⟨hl, hget⟩ := initAll_get ctxs sts h
    exact ⟨hl, fun p c hc => by obtain ⟨s, h1, h2⟩ := hget p c hc; exact ⟨s, h1, h2⟩⟩
  | succ t ih =>
    intro sts' h
    simp only [netRun] at h
    cases hr : netRun ctxs net ext t with
    | none => simp [hr] at h
    | some sts =>
      simp only [hr, Option.bind_some] at h
      obtain ⟨hl, hcomp⟩ := ih sts hr
      obtain ⟨hl', hget⟩ := netStepFrom_get 0 ctxs sts sts' hl.symm h
      refine ⟨by rw [hl', hl], ?_⟩
      intro p c hc
      obtain ⟨s, hs, hrun⟩ := hcomp p c hc
      obtain ⟨s', h1, h2⟩ := hget p c s hc hs
      refine ⟨s', h1, ?_⟩
      simp only [refRun, hrun, Option.bind_some]
      simp only [Bool.false_eq_true, if_false, Nat.zero_add] at h2
      simp only [inducedEnv, hr]
      exact h2

end BMV.Basm
