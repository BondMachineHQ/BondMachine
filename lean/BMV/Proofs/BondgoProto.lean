/-
  The goroutine protocol (model: BMV/BondgoProto.lean; property theorems: BMV/Props/C12.lean).
  Every rendezvous lowers `rank` by one.  The states of the fixed protocol are six shapes (`Inv`, whose
  decidable form is `inv`); each has exactly one enabled rendezvous, which leads to a shape again
  (`Inv.next`): so `inv` is preserved, no state is stuck, and every schedule ends in the final state
  within `rank` steps.
-/
import BMV.BondgoProto
namespace BMV.BondgoProto

theorem afterReq_cost (pre post : Nat) : (afterReq pre post).cost = pre + 1 + post := by
  cases pre <;> simp [afterReq, APc.cost] <;> omega

theorem afterAns_cost (post : Nat) : (afterAns post).cost = post := by
  cases post <;> simp [afterAns, APc.cost]

/-- every rendezvous lowers the rank by exactly one (fixed or not) -/
theorem rank_step {s s' : St} {t : Tr} (h : step s t = some s') : rank s' + 1 = rank s := by
  obtain ⟨acts, vw, vx, a, m⟩ := s
  cases t <;> simp only [step] at h <;> split at h <;> (try split at h) <;> cases h <;>
    (try (rename_i hx; subst hx)) <;>
    simp only [rank, afterReq_cost, afterAns_cost] <;>
    simp [actsCost, Act.cost, APc.cost] <;> omega

theorem mem_enabled {s s' : St} {t : Tr} (h : step s t = some s') : t ∈ enabled s := by
  unfold enabled
  refine List.mem_filter.mpr ⟨?_, by simp [h]⟩
  cases t <;> simp [Tr.all]

theorem of_mem_enabled {s : St} {t : Tr} (h : t ∈ enabled s) : ∃ s', step s t = some s' := by
  unfold enabled at h
  have := (List.mem_filter.mp h).2
  exact Option.isSome_iff_exists.mp this

theorem final_rank {s : St} (h : final s = true) : rank s = 0 := by
  obtain ⟨acts, vw, vx, a, m⟩ := s
  simp only [final, Bool.and_eq_true, List.isEmpty_iff, beq_iff_eq] at h
  obtain ⟨⟨⟨h1, h2⟩, h3⟩, h4⟩ := h
  subst h1; subst h2; subst h3
  cases vw <;> simp [rank, actsCost, APc.cost]


/-- The states of the fixed protocol, by shape: the visitor's turn (nothing pending); a request sent and
    the assigner on its way to the answer, with nothing to send after it; the four exit phases.
    `inv` is the decidable form of this (`Inv.of_inv`, `Inv.sound`). -/
inductive Inv : St → Prop where
  | ready (acts : List Act) (h : acts.all Act.fixed = true) : Inv ⟨acts, false, 0, .idle, .listen⟩
  | serving (p : Nat) (tl : List Act) (a : APc) (h : tl.all Act.fixed = true) (ha : a.servingFixed = true) :
      Inv ⟨.req p 0 :: tl, true, 0, a, .listen⟩
  | exit1 : Inv ⟨[], false, 1, .idle, .fin⟩
  | exit2 : Inv ⟨[], false, 2, .idle, .done⟩
  | exit3 : Inv ⟨[], false, 3, .fin, .done⟩
  | exit4 : Inv ⟨[], false, 4, .done, .done⟩

theorem Inv.sound {s : St} (h : Inv s) : inv s = true := by
  cases h with
  | ready acts h => rcases acts with _ | ⟨⟨p, q⟩ | _, tl⟩ <;> simp_all [inv]
  | serving p tl a h ha => simp [inv, Act.fixed, h, ha]
  | _ => rfl

theorem Inv.of_inv {s : St} (h : inv s = true) : Inv s := by
  obtain ⟨acts, vw, vx, a, m⟩ := s
  rcases acts with _ | ⟨⟨p, q⟩ | _, tl⟩
  · simp only [inv, List.all_nil, Bool.true_and, Bool.and_eq_true, beq_iff_eq] at h
    obtain ⟨rfl, h⟩ := h
    rcases vx with _ | _ | _ | _ | _ | n <;> simp only [Bool.and_eq_true, beq_iff_eq] at h
    · obtain ⟨rfl, rfl⟩ := h; exact .ready [] rfl
    · obtain ⟨rfl, rfl⟩ := h; exact .exit1
    · obtain ⟨rfl, rfl⟩ := h; exact .exit2
    · obtain ⟨rfl, rfl⟩ := h; exact .exit3
    · obtain ⟨rfl, rfl⟩ := h; exact .exit4
    · cases h
  · simp only [inv, List.all_cons, Act.fixed, Bool.and_eq_true, beq_iff_eq] at h
    obtain ⟨⟨rfl, htl⟩, ⟨rfl, rfl⟩, ha⟩ := h
    cases vw
    · simp only [Bool.false_eq_true, if_false, beq_iff_eq] at ha
      subst ha
      exact .ready _ (by simp [Act.fixed, htl])
    · exact .serving _ _ _ htl (by simpa using ha)
  · simp only [inv, List.all_cons, Act.fixed, Bool.true_and, Bool.and_eq_true, beq_iff_eq] at h
    obtain ⟨htl, ⟨⟨rfl, rfl⟩, rfl⟩, rfl⟩ := h
    exact .ready _ (by simp [Act.fixed, htl])

theorem inv_init (acts : List Act) (h : acts.all Act.fixed = true) : inv (init acts) = true :=
  (Inv.ready acts h).sound

/-- The fixed protocol walks a single path: in every state that is not final exactly one rendezvous is
    enabled, and it leads to a state of the protocol again. -/
theorem Inv.next {s : St} (h : Inv s) :
    final s = true ∨ ∃ t s', enabled s = [t] ∧ step s t = some s' ∧ Inv s' := by
  cases h with
  | ready acts h =>
    rcases acts with _ | ⟨⟨p, q⟩ | _, tl⟩
    · exact .inr ⟨.vUse, _, rfl, rfl, .exit1⟩
    · simp only [List.all_cons, Act.fixed, Bool.and_eq_true, beq_iff_eq] at h
      obtain ⟨rfl, htl⟩ := h
      exact .inr ⟨.vReq, _, rfl, rfl, .serving _ _ _ htl (by cases p <;> rfl)⟩
    · simp only [List.all_cons, Act.fixed, Bool.true_and] at h
      exact .inr ⟨.vUse, _, rfl, rfl, .ready _ h⟩
  | serving p tl a h ha =>
    rcases a with _ | ⟨n, q⟩ | q | _ | _ | _ <;> simp only [APc.servingFixed, beq_iff_eq, reduceCtorEq] at ha
    · -- notifications before the answer
      subst ha
      cases n
      · exact .inr ⟨.aUse, _, rfl, rfl, .serving _ _ _ h rfl⟩
      · exact .inr ⟨.aUse, _, rfl, rfl, .serving _ _ _ h rfl⟩
    · subst ha
      exact .inr ⟨.aAns, _, rfl, rfl, .ready _ h⟩
  | exit1 => exact .inr ⟨.mDone, _, rfl, rfl, .exit2⟩
  | exit2 => exact .inr ⟨.vReq, _, rfl, rfl, .exit3⟩
  | exit3 => exact .inr ⟨.aDone, _, rfl, rfl, .exit4⟩
  | exit4 => exact .inl rfl

theorem Reach.head {s s' s'' : St} {t : Tr} (h : step s t = some s') (hr : Reach s' s'') : Reach s s'' := by
  induction hr with
  | refl => exact .tail t (.refl s) h
  | tail t' _ hs ih => exact .tail t' ih hs

theorem reach_runTrs (ts : List Tr) : ∀ s, Reach s (runTrs s ts) := by
  induction ts with
  | nil => intro s; exact .refl s
  | cons t ts ih =>
    intro s
    simp only [runTrs]
    cases h : step s t with
    | some s' => exact Reach.head h (ih s')
    | none => exact ih s

theorem reach_rank {s s' : St} (hr : Reach s s') : rank s' ≤ rank s := by
  induction hr with
  | refl => exact Nat.le_refl _
  | tail t _ hs ih => have := rank_step hs; omega

theorem final_no_step {s s' : St} {t : Tr} (hf : final s = true) : step s t ≠ some s' := by
  intro h
  have := rank_step h
  have := final_rank hf
  omega

theorem inv_step {s s' : St} {t : Tr} (hi : inv s = true) (h : step s t = some s') : inv s' = true := by
  rcases (Inv.of_inv hi).next with hf | ⟨t0, s0, he, hs, hI⟩
  · exact absurd h (final_no_step hf)
  · have ht := mem_enabled h
    rw [he, List.mem_singleton] at ht
    subst ht
    rw [hs] at h
    cases h
    exact hI.sound

theorem inv_enabled {s : St} (hi : inv s = true) (hf : final s = false) : (enabled s).length = 1 := by
  rcases (Inv.of_inv hi).next with hf' | ⟨t0, s0, he, _, _⟩
  · rw [hf] at hf'; cases hf'
  · rw [he]; rfl

theorem reach_inv {s s' : St} (hi : inv s = true) (hr : Reach s s') : inv s' = true := by
  induction hr with
  | refl => exact hi
  | tail t _ hs ih => exact inv_step ih hs

theorem final_enabled {s : St} (hf : final s = true) : enabled s = [] := by
  cases he : enabled s with
  | nil => rfl
  | cons t ts =>
    have : t ∈ enabled s := by rw [he]; exact List.mem_cons_self
    obtain ⟨s', hs⟩ := of_mem_enabled this
    exact absurd hs (final_no_step hf)

theorem inv_rank_zero {s : St} (hi : inv s = true) (hr : rank s = 0) : final s = true := by
  cases hf : final s with
  | true => rfl
  | false =>
    have hl := inv_enabled hi hf
    cases he : enabled s with
    | nil => rw [he] at hl; cases hl
    | cons t ts =>
      have : t ∈ enabled s := by rw [he]; exact List.mem_cons_self
      obtain ⟨s', hs⟩ := of_mem_enabled this
      have := rank_step hs
      omega

theorem getD_mem_cons {α : Type} (t : α) (ts : List α) (k : Nat) : (t :: ts).getD k t ∈ t :: ts := by
  rw [List.getD_eq_getElem?_getD]
  cases h : (t :: ts)[k]? with
  | none => simp
  | some x => simpa using List.mem_of_getElem? h

theorem runSched_final (sched : Nat → Nat) :
    ∀ (fuel i : Nat) (s : St), inv s = true → rank s ≤ fuel → final (runSched sched fuel i s) = true := by
  intro fuel
  induction fuel with
  | zero =>
    intro i s hi hr
    simp only [runSched]
    exact inv_rank_zero hi (by omega)
  | succ fuel ih =>
    intro i s hi hr
    cases hf : final s with
    | true =>
      simp only [runSched, final_enabled hf]
      exact hf
    | false =>
      have hl := inv_enabled hi hf
      unfold runSched
      cases he : enabled s with
      | nil => rw [he] at hl; cases hl
      | cons t ts =>
        simp only
        have hm : (t :: ts).getD (sched i % (ts.length + 1)) t ∈ enabled s := by
          rw [he]; exact getD_mem_cons _ _ _
        obtain ⟨s', hs⟩ := of_mem_enabled hm
        rw [hs]
        simp only
        have := rank_step hs
        exact ih (i + 1) s' (inv_step hi hs) (by omega)

end BMV.BondgoProto
