/-
  C18: where the findings of `Design.lint` come from — what `procTarget` / `contTarget` report for a
  target of a block or of a continuous assignment is a lint finding.  The lint theorems of
  `BMV.Props.C18` read these backwards on a lint-clean design.
-/
import BMV.Vlog.Lint
namespace BMV.Vlog

theorem Design.mem_lint_of_mem_proc (d : Design) (x : String) (h : x ∈ d.procFindings) : x ∈ d.lint := by
  unfold Design.lint
  rw [List.mem_eraseDups]
  exact List.mem_append_right _ h

theorem Design.mem_lint_of_mem_cont (d : Design) (x : String)
    (h : x ∈ d.contFindings (d.assigns.toList.flatMap fun a => lhsTargets a.1) []) : x ∈ d.lint := by
  unfold Design.lint
  rw [List.mem_eraseDups]
  exact List.mem_append_left _ h

theorem Design.procTarget_in_lint (d : Design) (b i : Nat) (hb : b < d.alwaysBodies.length)
    (hi : i ∈ d.blockTargets b) (x : String) (hx : x ∈ d.procTarget b (b < d.alwaysBodies.length) i) : x ∈ d.lint := by
  apply mem_lint_of_mem_proc
  unfold Design.procFindings
  simp only [List.mem_flatMap, List.mem_range]
  refine ⟨b, by rw [List.length_append]; omega, ?_⟩
  unfold Design.blockTargets at hi
  rw [List.getElem?_append_left hb]
  rw [List.getElem?_eq_getElem hb] at hi ⊢
  exact List.mem_flatMap.mpr ⟨i, List.mem_eraseDups.mpr hi, hx⟩

theorem Design.multi_in_lint (d : Design) (i b1 b2 : Nat)
    (hint : d.isIntSig i = false) (hlt : b1 < b2) (hb2 : b2 < d.alwaysBodies.length)
    (h1 : i ∈ d.blockTargets b1) (h2 : i ∈ d.blockTargets b2) :
    s!"[multi-driver] reg {d.sigName i} is assigned in more than one always block" ∈ d.lint := by
  apply procTarget_in_lint d b2 i hb2 h2
  unfold Design.procTarget
  apply List.mem_append_right
  have hw : d.writtenBefore b2 i = true := by
    unfold Design.writtenBefore
    rw [List.any_eq_true]
    exact ⟨b1, List.mem_range.mpr hlt, List.contains_iff_mem.mpr h1⟩
  simp [hint, hw, hb2]

/-- the assignment-kind findings of a continuous target do not depend on the targets seen before it -/
theorem Design.mem_contFindings (d : Design) (t : Nat × Bool) (x : String) :
    ∀ (ts : List (Nat × Bool)) (seen : List Nat), t ∈ ts → x ∈ d.contTarget [] t → x ∈ d.contFindings ts seen
  | u :: us, seen, hmem, hx => by
    unfold Design.contFindings
    rcases List.mem_cons.mp hmem with rfl | hin
    · apply List.mem_append_left
      unfold Design.contTarget at hx ⊢
      simp only [List.mem_append] at hx ⊢
      rcases hx with (hx | hx) | hx
      · exact Or.inl (Or.inl hx)
      · exact Or.inl (Or.inr hx)
      · simp at hx
    · exact List.mem_append_right _ (mem_contFindings d t x us _ hin hx)

end BMV.Vlog
