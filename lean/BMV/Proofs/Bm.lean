/-
  Helper lemmas for C02 about BMV.Bm: with the repaired handshake (fix 18c0f8e in /repo, models
  BMV.Isa / BMV.Rtl as of c39ac5f) neither world ever meets the C04 signature, so the hypothesis
  `PortReuseSafe` of the stream statement holds for every machine and environment
  (`isaHazard_false`, `rtlHazard_false`, `runIsa_flag`, `runRtl_flag`); and the reference network
  `refNet` of every machine is a well-owned channel network (`refNet_owned`: an agent reads only
  slots and writes only channels it owns), which is what `Kpn.chanNet_diamond` asks for.
-/
import BMV.Bm
import BMV.Proofs.Isa
namespace BMV.Bm
open BMV BMV.Bits

theorem getElem?_eq_some_true {l : List Bool} {k : Nat} : l[k]? = some true ↔ l.getD k false = true := by
  rw [List.getD_eq_getElem?_getD]
  cases l[k]? with
  | none => exact ⟨nofun, nofun⟩
  | some b => exact ⟨fun h => Option.some.inj h, fun h => congrArg some h⟩

theorem getD_foldl_set_false (done : List Nat) (l : List Bool) (k : Nat) :
    (done.foldl (fun l i => l.set i false) l).getD k false = if k ∈ done then false else l.getD k false := by
  induction done generalizing l with
  | nil => simp
  | cons d ds ih =>
    simp only [List.foldl_cons]
    rw [ih]
    by_cases hk : k ∈ ds
    · simp [hk]
    · simp only [hk, if_false, List.mem_cons, or_false]
      by_cases hd : k = d
      · subst hd
        simp only [if_true, List.getD_eq_getElem?_getD]
        by_cases hlt : k < l.length
        · rw [List.getElem?_set_self hlt]; rfl
        · rw [List.getElem?_eq_none (by simp; omega)]; rfl
      · simp only [hd, if_false, List.getD_eq_getElem?_getD]
        rw [List.getElem?_set_ne (fun e => hd e.symm)]

/-- `ExecuteDeferredInstructions`, seen from input `k` whose valid line shows `V`: a pending
    `waitRecvI2rw` clears recv and completes exactly when `V` is low -/
theorem runDeferred_obs (s : VmState) (k : Nat) (V : Bool) (hV : s.inValid[k]? = some V) :
    (Isa.runDeferred s).inRecv.getD k false =
      (if (decide (k ∈ s.deferred) && !V) = true then false else s.inRecv.getD k false) ∧
    decide (k ∈ (Isa.runDeferred s).deferred) = (decide (k ∈ s.deferred) && V) := by
  unfold Isa.runDeferred
  simp only
  rw [getD_foldl_set_false]
  by_cases hm : k ∈ s.deferred <;> cases V <;> simp [List.mem_filter, hm, hV]

/-! the two handshake instructions, as equations of `Isa.exec`: the arm of the opcode is selected by
    deciding the string comparisons of the `if` chain, wherever the arm stands in it -/

theorem exec_i2rw_eq (a : Arch) (n : Nat) (body : Bits) (s : VmState) :
    Isa.exec a n "i2rw" body s =
      (match s.inValid[Isa.field body a.r a.inBits]?, s.inputs[Isa.field body a.r a.inBits]? with
       | some true, some v =>
         if s.inRecv[Isa.field body a.r a.inBits]? = some true then some s
         else if Isa.field body 0 a.r < s.regs.length then
           some { s with pc := s.pc + 1, regs := s.regs.set (Isa.field body 0 a.r) v,
                         inRecv := s.inRecv.set (Isa.field body a.r a.inBits) true,
                         deferred := if Isa.field body a.r a.inBits ∈ s.deferred then s.deferred
                                     else s.deferred ++ [Isa.field body a.r a.inBits] }
         else none
       | some false, some _ => some { s with inRecv := s.inRecv.set (Isa.field body a.r a.inBits) false }
       | _, _ => none) := by
  simp only [Isa.exec, Isa.pipeOps, ↓reduceIte, String.reduceEq, List.mem_cons, List.not_mem_nil, or_self]
  cases s.inValid[Isa.field body a.r a.inBits]? with
  | none => rfl
  | some b => cases b <;> cases s.inputs[Isa.field body a.r a.inBits]? <;> rfl

theorem exec_r2owa_eq (a : Arch) (n : Nat) (body : Bits) (s : VmState) :
    Isa.exec a n "r2owa" body s =
      (match s.regs[Isa.field body 0 a.r]?, s.outRecv[Isa.field body a.r a.outBits]? with
       | some v, some rc =>
         if s.outValid[Isa.field body a.r a.outBits]? = some false ∧ rc then some s
         else if Isa.field body a.r a.outBits < s.outputs.length then
           some (if rc then { s with outputs := s.outputs.set (Isa.field body a.r a.outBits) v,
                                      outValid := s.outValid.set (Isa.field body a.r a.outBits) false, pc := s.pc + 1 }
                 else { s with outputs := s.outputs.set (Isa.field body a.r a.outBits) v,
                               outValid := s.outValid.set (Isa.field body a.r a.outBits) true })
         else none
       | _, _ => none) := by
  simp only [Isa.exec, Isa.pipeOps, ↓reduceIte, String.reduceEq, List.mem_cons, List.not_mem_nil, or_self]
  cases s.regs[Isa.field body 0 a.r]? with
  | none => rfl
  | some v => cases s.outRecv[Isa.field body a.r a.outBits]? <;> rfl

theorem step_of_decode {a : Arch} {prog : List Bits} {s : VmState} {op : String} {body : Bits}
    (hd : decode a prog s.pc = some (op, body)) :
    Isa.step a prog s = Isa.exec a prog.length op body (Isa.runDeferred s) := by
  unfold decode at hd
  cases hw : prog[s.pc]? with
  | none => rw [hw] at hd; cases hd
  | some w =>
    rw [hw] at hd
    obtain ⟨op', hop, heq⟩ := Option.map_eq_some_iff.mp hd
    cases heq
    exact Isa.step_eq hw hop

theorem isaHazard_false (a : Arch) (prog : List Bits) (s : VmState) : isaHazard a prog s = false := by
  unfold isaHazard
  split
  · -- i2rw with valid and recv both up: the instruction waits
    rename_i body hd
    rw [step_of_decode hd, exec_i2rw_eq]
    dsimp only
    by_cases hv : s.inValid[Isa.field body a.r a.inBits]? = some true
    · by_cases hr : s.inRecv[Isa.field body a.r a.inBits]? = some true
      · have hr2 : (Isa.runDeferred s).inRecv[Isa.field body a.r a.inBits]? = some true :=
          getElem?_eq_some_true.mpr (((runDeferred_obs s _ true hv).1.trans (by rw [Bool.not_true, Bool.and_false]; rfl)).trans
            (getElem?_eq_some_true.mp hr))
        rw [show (Isa.runDeferred s).inValid = s.inValid from rfl,
          show (Isa.runDeferred s).inputs = s.inputs from rfl, hv]
        cases hin : s.inputs[Isa.field body a.r a.inBits]? with
        | none => exact Bool.and_false _
        | some v =>
          dsimp only
          rw [if_pos hr2]
          simp only [show (Isa.runDeferred s).pc = s.pc from rfl, bne_self_eq_false, Bool.and_false]
      · simp [hr]
    · simp [hv]
  · -- r2owa with valid low and a stale recv: the instruction waits
    rename_i body hd
    rw [step_of_decode hd, exec_r2owa_eq]
    dsimp only
    by_cases hv : s.outValid[Isa.field body a.r a.outBits]? = some false
    · by_cases hr : s.outRecv[Isa.field body a.r a.outBits]? = some true
      · rw [show (Isa.runDeferred s).outRecv = s.outRecv from rfl,
          show (Isa.runDeferred s).outValid = s.outValid from rfl,
          show (Isa.runDeferred s).regs = s.regs from rfl, hr]
        cases hreg : s.regs[Isa.field body 0 a.r]? with
        | none => exact Bool.and_false _
        | some v =>
          dsimp only
          rw [if_pos ⟨hv, rfl⟩]
          simp only [show (Isa.runDeferred s).pc = s.pc from rfl, bne_self_eq_false, List.getD_eq_getElem?_getD,
            show (Isa.runDeferred s).outValid = s.outValid from rfl, hv, Option.getD_some, Bool.or_self,
            Bool.and_false]
      · simp [hr]
    · simp [hv]
  · rfl

theorem rtlHazard_false (a : Arch) (prog : List Bits) (s : RtlState) (p : PortsIn) : rtlHazard a prog s p = false := by
  unfold rtlHazard
  simp only
  split
  · rename_i hop
    -- i2rw: with recv still up the arm does not fire
    cases hv : p.inValid.getD (Rtl.part (Rtl.fetch prog s.pc) a.maxWord (a.opBits + a.r) a.inBits) false with
    | false => simp
    | true =>
      cases hr : s.iRecv.getD (Rtl.part (Rtl.fetch prog s.pc) a.maxWord (a.opBits + a.r) a.inBits) false with
      | false => simp
      | true =>
        have : (Rtl.cycle a prog s p).pc = s.pc := by
          rw [List.getD_eq_getElem?_getD] at hr
          simp [Rtl.cycle, Rtl.mainBlock, hop, hr, Rtl.unops, Rtl.binops, Rtl.pipeOps]
        simp [this]
  · rename_i hop
    cases hw : s.waitsm with
    | true => simp
    | false =>
      cases hv : s.oVal.getD (Rtl.part (Rtl.fetch prog s.pc) a.maxWord (a.opBits + a.r) a.outBits) false with
      | false => simp
      | true =>
        cases hr : p.outRecv.getD (Rtl.part (Rtl.fetch prog s.pc) a.maxWord (a.opBits + a.r) a.outBits) false with
        | false => simp
        | true =>
          have : (Rtl.cycle a prog s p).oVal.getD (Rtl.part (Rtl.fetch prog s.pc) a.maxWord (a.opBits + a.r) a.outBits) false = false := by
            simp only [Rtl.cycle, List.getD_eq_getElem?_getD, List.getElem?_map]
            by_cases hlt : Rtl.part (Rtl.fetch prog s.pc) a.maxWord (a.opBits + a.r) a.outBits < a.m
            · rw [List.getElem?_range hlt]
              rw [List.getD_eq_getElem?_getD] at hr
              simp [Rtl.valBlock, hop, hw, hr]
            · rw [List.getElem?_eq_none (by simp; omega)]; rfl
          rw [this]; simp
  · rfl

theorem bmIsaHazard_false (m : Machine) (s : BmState) : bmIsaHazard m s = false := by
  unfold bmIsaHazard
  rw [List.any_eq_false]
  rintro ⟨v, p⟩ _
  simp only
  split <;> simp [isaHazard_false]

theorem bmRtlHazard_false (m : Machine) (h : HwState) (e : EnvIn) : bmRtlHazard m h e = false := by
  unfold bmRtlHazard
  rw [List.any_eq_false]
  rintro ⟨v, p⟩ _
  simp only
  split <;> simp [rtlHazard_false]

theorem runIsa_flag (m : Machine) (spec : EnvSpec) (n : Nat) (x r : BmState × EnvSt × Bool)
    (h : runIsa m spec n x = some r) : r.2.2 = x.2.2 := by
  induction n generalizing x with
  | zero => simp only [runIsa, Option.some.injEq] at h; rw [← h]
  | succ n ih =>
    obtain ⟨s, env, hz⟩ := x
    simp only [runIsa] at h
    split at h
    · cases h
    · rw [ih _ h]; simp [bmIsaHazard_false]

theorem runRtl_flag (m : Machine) (spec : EnvSpec) (n : Nat) (x : HwState × EnvSt × Bool) :
    (runRtl m spec n x).2.2 = x.2.2 := by
  induction n generalizing x with
  | zero => rfl
  | succ n ih =>
    obtain ⟨h, env, hz⟩ := x
    simp only [runRtl]
    rw [ih]; simp [bmRtlHazard_false]


open BMV.Topology

theorem findIdx?_get {l : List Topology.Bond} {b : Topology.Bond} {i : Nat} (h : l.findIdx? (· = b) = some i) :
    l[i]? = some b := by
  obtain ⟨hlt, hp, _⟩ := List.findIdx?_eq_some_iff_getElem.mp h
  rw [List.getElem?_eq_getElem hlt]
  simpa using hp

theorem mem_slotsOfChan {t : Topo} {s ch : Nat} : s ∈ slotsOfChan t ch ↔ t.links[s]? = some (some ch) := by
  unfold slotsOfChan
  rw [List.mem_filterMap]
  constructor
  · rintro ⟨⟨l, i⟩, hm, hb⟩
    simp only at hb
    split at hb
    · rename_i hl
      simp only [Option.some.injEq] at hb
      subst hb hl
      exact List.mem_zipIdx_iff_getElem?.mp hm
    · cases hb
  · intro h
    exact ⟨(some ch, s), List.mem_zipIdx_iff_getElem?.mpr h, by simp⟩

theorem chanOfSlot_some {t : Topo} {s ch : Nat} (h : chanOfSlot t s = some ch) : t.links[s]? = some (some ch) := by
  unfold chanOfSlot at h
  cases hl : t.links[s]? with
  | none => simp [hl] at h
  | some l => cases l <;> simp_all

theorem procAct_read {t : Topo} {a : Arch} {prog : List Bits} {p : Nat} {v : VmState} {s ch : Nat} {k : Nat → RefLoc}
    (h : procAct t a prog p v = .read s ch k) :
    (∃ e, slotOf t ⟨2, p, e⟩ = some s) ∧ chanOfSlot t s = some ch := by
  unfold procAct at h
  split at h
  · cases h
  · rename_i op body _
    split at h
    · simp only at h
      split at h
      · cases h
      · rename_i slot hslot
        split at h
        · cases h
        · rename_i ch' hch
          cases h
          exact ⟨⟨_, hslot⟩, hch⟩
    · split at h
      · simp only at h
        split at h <;> cases h
      · split at h <;> cases h

theorem procAct_write {t : Topo} {a : Arch} {prog : List Bits} {p : Nat} {v : VmState} {ch x : Nat} {l : RefLoc}
    (h : procAct t a prog p v = .write ch x l) : ∃ e, idxOfOut t ⟨3, p, e⟩ = some ch := by
  unfold procAct at h
  split at h
  · cases h
  · split at h
    · simp only at h
      split at h
      · cases h
      · split at h <;> cases h
    · split at h
      · simp only at h
        split at h
        · cases h
        · rename_i ch' hch
          cases h
          exact ⟨_, hch⟩
      · split at h <;> cases h

theorem slotOwner_of {t : Topo} {b : Topology.Bond} {s : Nat} (h : slotOf t b = some s) :
    slotOwner t s = if b.kind = 2 then .proc b.res else .envOut b.res := by
  unfold slotOwner
  rw [findIdx?_get h]

theorem chanOwner_of {t : Topo} {b : Topology.Bond} {ch : Nat} (h : idxOfOut t b = some ch) :
    chanOwner t ch = if b.kind = 3 then .proc b.res else .envIn b.res := by
  unfold chanOwner
  rw [findIdx?_get h]

theorem refAct_read {m : Machine} {spec : EnvSpec} {i : RefAgent} {l : RefLoc} {s ch : Nat} {k : Nat → RefLoc}
    (h : refAct m spec i l = .read s ch k) : slotOwner m.topo s = i ∧ chanOfSlot m.topo s = some ch := by
  unfold refAct at h
  split at h
  · split at h
    · obtain ⟨⟨e, hs⟩, hc⟩ := procAct_read h
      exact ⟨by rw [slotOwner_of hs]; rfl, hc⟩
    · cases h
  · simp only at h
    split at h
    · cases h
    · split at h <;> cases h
  · split at h
    · cases h
    · rename_i slot hs
      split at h
      · cases h
      · rename_i ch' hc
        cases h
        exact ⟨by rw [slotOwner_of hs]; rfl, hc⟩
  · cases h

theorem refAct_write {m : Machine} {spec : EnvSpec} {i : RefAgent} {l l' : RefLoc} {ch v : Nat}
    (h : refAct m spec i l = .write ch v l') : chanOwner m.topo ch = i := by
  unfold refAct at h
  split at h
  · split at h
    · obtain ⟨e, hc⟩ := procAct_write h
      rw [chanOwner_of hc]; rfl
    · cases h
  · simp only at h
    split at h
    · cases h
    · split at h
      · cases h
      · rename_i ch' hc
        cases h
        rw [chanOwner_of hc]; rfl
  · split at h
    · cases h
    · split at h <;> cases h
  · cases h

theorem refNet_owned (m : Machine) (spec : EnvSpec) : (refNet m spec).Owned where
  read_own := fun _ _ _ _ _ h =>
    ⟨(refAct_read h).1, mem_slotsOfChan.mpr (chanOfSlot_some (refAct_read h).2)⟩
  write_own := fun _ _ _ _ _ h => refAct_write h
  slot_chan := fun _ _ _ h1 h2 =>
    Option.some.inj (Option.some.inj ((mem_slotsOfChan.mp h1).symm.trans (mem_slotsOfChan.mp h2)))

end BMV.Bm
