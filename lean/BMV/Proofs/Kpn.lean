/-
  Determinacy of networks of deterministic agents whose steps commute (`determinate`), by the
  classical strip-lemma argument, and the diamond property of the two networks it is applied to in
  BMV/Props/C02.lean (`kahn_determinate`, `bond_channel_determinate`).
-/
import BMV.Kpn
namespace BMV.Kpn

variable {ι σ : Type}

theorem run_append (S : Sys ι σ) (a b : List ι) (s : σ) :
    S.run (a ++ b) s = (S.run a s).bind (S.run b) := by
  induction a generalizing s with
  | nil => simp [Sys.run]
  | cons i a ih =>
    simp only [List.cons_append, Sys.run]
    cases S.step i s with
    | none => simp
    | some s1 => simp [ih]

/-- strip lemma: one step against a whole schedule.  (`DecidableEq ι`, here and below, only decides
    `i = j` in one case split: without it the argument would rest on `Classical.choice`.) -/
theorem strip [DecidableEq ι] (S : Sys ι σ) (hd : S.Diamond) (i : ι) (b : List ι) (s s1 sb : σ)
    (h1 : S.step i s = some s1) (hb : S.run b s = some sb) :
    ∃ b' c sc, S.run b' s1 = some sc ∧ S.run c sb = some sc := by
  induction b generalizing s s1 with
  | nil =>
    simp only [Sys.run, Option.some.injEq] at hb
    subst hb
    exact ⟨[], [i], s1, rfl, by simp [Sys.run, h1]⟩
  | cons j b ih =>
    simp only [Sys.run] at hb
    cases h2 : S.step j s with
    | none => simp [h2] at hb
    | some s2 =>
      simp only [h2, Option.bind_some] at hb
      by_cases hij : i = j
      · subst hij
        rw [h1] at h2
        cases h2
        exact ⟨b, [], sb, hb, rfl⟩
      · obtain ⟨s3, h3, h4⟩ := hd i j s s1 s2 hij h1 h2
        obtain ⟨b', c, sc, r1, r2⟩ := ih s2 s3 h4 hb
        exact ⟨j :: b', c, sc, by simp [Sys.run, h3, r1], r2⟩

/-- confluence: two schedules from the same state can be continued to a common state -/
theorem confluent [DecidableEq ι] (S : Sys ι σ) (hd : S.Diamond) (a b : List ι) (s sa sb : σ)
    (ha : S.run a s = some sa) (hb : S.run b s = some sb) :
    ∃ a' b' sc, S.run a' sa = some sc ∧ S.run b' sb = some sc := by
  induction a generalizing s b sb with
  | nil =>
    simp only [Sys.run, Option.some.injEq] at ha
    subst ha
    exact ⟨b, [], sb, hb, rfl⟩
  | cons i a ih =>
    simp only [Sys.run] at ha
    cases h1 : S.step i s with
    | none => simp [h1] at ha
    | some s1 =>
      simp only [h1, Option.bind_some] at ha
      obtain ⟨b1, c, sc1, r1, r2⟩ := strip S hd i b s s1 sb h1 hb
      obtain ⟨a', b2, sc, r3, r4⟩ := ih b1 s1 sc1 ha r1
      exact ⟨a', c ++ b2, sc, r3, by rw [run_append, r2]; exact r4⟩

theorem run_mono {κ ν : Type} (S : Sys ι σ) (hist : σ → κ → List ν)
    (hm : ∀ i s s', S.step i s = some s' → ∀ c, hist s c <+: hist s' c)
    (a : List ι) (s s' : σ) (h : S.run a s = some s') (c : κ) : hist s c <+: hist s' c := by
  induction a generalizing s with
  | nil => simp only [Sys.run, Option.some.injEq] at h; subst h; exact List.prefix_refl _
  | cons i a ih =>
    simp only [Sys.run] at h
    cases h1 : S.step i s with
    | none => simp [h1] at h
    | some s1 =>
      simp only [h1, Option.bind_some] at h
      exact (hm i s s1 h1 c).trans (ih s1 h)

/-- **determinacy**: whatever the schedules (stall patterns), the histories of every channel are
    prefix-comparable — both are prefixes of the history of a common continuation -/
theorem determinate [DecidableEq ι] {κ ν : Type} (S : Sys ι σ) (hd : S.Diamond) (hist : σ → κ → List ν)
    (hm : ∀ i s s', S.step i s = some s' → ∀ c, hist s c <+: hist s' c)
    (a b : List ι) (s sa sb : σ) (ha : S.run a s = some sa) (hb : S.run b s = some sb) (c : κ) :
    hist sa c <+: hist sb c ∨ hist sb c <+: hist sa c := by
  obtain ⟨a', b', sc, r1, r2⟩ := confluent S hd a b s sa sb ha hb
  exact List.prefix_or_prefix_of_prefix (run_mono S hist hm a' sa sc r1 c) (run_mono S hist hm b' sb sc r2 c)

/-! ### the bond network (producer ∥ one-place channel with fan-out ∥ consumers) is determinate -/

theorem consumer_step (f : Nat → Nat) (c : Nat) (s s' : ChanState) :
    chanStep f (.consumer c) s = some s' ↔
      ∃ v g, s.full = some v ∧ s.taken[c]? = some false ∧ s.got[c]? = some g ∧ s' = afterTake s c v g := by
  show consStep c s = some s' ↔ _
  unfold consStep
  constructor
  · intro h
    split at h
    · rename_i v g h1 h2 h3
      exact ⟨v, g, h1, h2, h3, (Option.some.inj h).symm⟩
    · simp at h
  · rintro ⟨v, g, h1, h2, h3, rfl⟩
    simp only [h1, h2, h3]

theorem producer_step (f : Nat → Nat) (s s' : ChanState) :
    chanStep f .producer s = some s' ↔ s.full = none ∧ s' = { s with sent := s.sent + 1, full := some (f s.sent) } := by
  show prodStep f s = some s' ↔ _
  unfold prodStep
  constructor
  · intro h
    split at h
    · rename_i h1; exact ⟨h1, (Option.some.inj h).symm⟩
    · simp at h
  · rintro ⟨h1, rfl⟩; simp [h1]

theorem not_all_of_false {l : List Bool} {d : Nat} (h : l[d]? = some false) : l.all id = false := by
  rw [Bool.eq_false_iff]
  intro hall
  rw [List.all_eq_true] at hall
  have := hall false (List.mem_of_getElem? h)
  simp at this

/- `chanSys` is the one-channel case of the networks below, but over another state record
   (`ChanState`: the place and who took from it, instead of counters per slot); a correspondence of
   the two would be longer than the direct argument. -/
theorem chan_diamond (f : Nat → Nat) : (chanSys f).Diamond := by
  -- the producer needs the place empty, a consumer needs it full
  have excl : ∀ {s s1 s2 d}, chanStep f .producer s = some s1 → chanStep f (.consumer d) s = some s2 → False := by
    intro s s1 s2 d h1 h2
    obtain ⟨hf, _⟩ := (producer_step f s s1).mp h1
    obtain ⟨v, g, hv, _⟩ := (consumer_step f d s s2).mp h2
    rw [hf] at hv; cases hv
  intro i j s s1 s2 hij h1 h2
  cases i with
  | producer =>
    cases j with
    | producer => exact absurd rfl hij
    | consumer d => exact (excl h1 h2).elim
  | consumer c =>
    cases j with
    | producer => exact (excl h2 h1).elim
    | consumer d =>
      have hcd : c ≠ d := fun h => hij (by rw [h])
      obtain ⟨v, g, hv, ht, hg, rfl⟩ := (consumer_step f c s s1).mp h1
      obtain ⟨v', g', hv', ht', hg', rfl⟩ := (consumer_step f d s s2).mp h2
      rw [hv] at hv'; cases hv'
      -- after c (resp. d) alone the place is still full: the other one has not taken the value
      have n1 : (s.taken.set c true).all id = false :=
        not_all_of_false (d := d) (by rw [List.getElem?_set_ne hcd]; exact ht')
      have n2 : (s.taken.set d true).all id = false :=
        not_all_of_false (d := c) (by rw [List.getElem?_set_ne (Ne.symm hcd)]; exact ht)
      have e1 : afterTake s c v g = { s with taken := s.taken.set c true, got := s.got.set c (g ++ [v]) } := by
        simp [afterTake, n1]
      have e2 : afterTake s d v g' = { s with taken := s.taken.set d true, got := s.got.set d (g' ++ [v]) } := by
        simp [afterTake, n2]
      refine ⟨afterTake (afterTake s c v g) d v g', ?_, ?_⟩
      · exact (consumer_step f d _ _).mpr ⟨v, g', by rw [e1]; exact hv, by rw [e1]; simp [List.getElem?_set_ne hcd, ht'],
          by rw [e1]; simp [List.getElem?_set_ne hcd, hg'], rfl⟩
      · refine (consumer_step f c _ _).mpr ⟨v, g, by rw [e2]; exact hv, by rw [e2]; simp [List.getElem?_set_ne (Ne.symm hcd), ht],
          by rw [e2]; simp [List.getElem?_set_ne (Ne.symm hcd), hg], ?_⟩
        rw [e1, e2]
        simp only [afterTake, List.set_comm _ _ (Ne.symm hcd)]

theorem chan_mono (f : Nat → Nat) (i : Agent) (s s' : ChanState) (h : (chanSys f).step i s = some s') (c : Nat) :
    s.got.getD c [] <+: s'.got.getD c [] := by
  cases i with
  | producer =>
    obtain ⟨_, rfl⟩ := (producer_step f s s').mp h
    exact List.prefix_refl _
  | consumer d =>
    obtain ⟨v, g, _, _, hg, rfl⟩ := (consumer_step f d s s').mp h
    have hgot : (afterTake s d v g).got = s.got.set d (g ++ [v]) := by
      unfold afterTake; split <;> rfl
    rw [hgot]
    by_cases hcd : c = d
    · subst hcd
      have hlt : c < s.got.length := (List.getElem?_eq_some_iff.mp hg).1
      simp only [List.getD_eq_getElem?_getD, hg, List.getElem?_set_self hlt, Option.getD_some]
      exact List.prefix_append _ _
    · simp only [List.getD_eq_getElem?_getD, List.getElem?_set_ne (Ne.symm hcd)]
      exact List.prefix_refl _


/-! ### networks over one-place channels with fan-out are confluent -/

variable {ι L : Type} [DecidableEq ι]

@[simp] theorem upd_same {α β : Type} [DecidableEq α] (f : α → β) (a : α) (b : β) : upd f a b a = b := by simp [upd]
theorem upd_ne {α β : Type} [DecidableEq α] (f : α → β) {a x : α} (b : β) (h : x ≠ a) : upd f a b x = f x := by simp [upd, h]
theorem upd_comm {α β : Type} [DecidableEq α] (f : α → β) {a a' : α} (b b' : β) (h : a ≠ a') :
    upd (upd f a b) a' b' = upd (upd f a' b') a b := by
  funext x
  unfold upd
  by_cases h1 : x = a
  · rw [if_neg (h1 ▸ h), if_pos h1, if_pos h1]
  · rw [if_neg h1, if_neg h1]

theorem all_cnt_congr (l : List Nat) (c c' : Nat → Nat) (n : Nat) (h : ∀ s ∈ l, c' s = c s) :
    l.all (fun s => c' s == n) = l.all (fun s => c s == n) := by
  induction l with
  | nil => rfl
  | cons a l ih =>
    simp only [List.all_cons]
    rw [h a (by simp), ih (fun s hs => h s (by simp [hs]))]

/-! what `ChanNet.step` does, by the agent's next action -/

variable {N : ChanNet ι L} {i : ι} {σ σ' : NState ι L}

theorem step_blocked (h : N.act i (σ.loc i) = .blocked) : N.step i σ = none := by
  simp only [ChanNet.step, h]

theorem step_internal {l : L} (h : N.act i (σ.loc i) = .internal l) :
    N.step i σ = some σ' ↔ σ' = { σ with loc := upd σ.loc i l } := by
  simp only [ChanNet.step, h, Option.some.injEq, eq_comm]

theorem step_write {ch v : Nat} {l : L} (h : N.act i (σ.loc i) = .write ch v l) :
    N.step i σ = some σ' ↔
      (!(N.slotsOf ch).isEmpty && (N.slotsOf ch).all (fun s => σ.cnt s == σ.sent ch)) = true ∧
      σ' = { σ with loc := upd σ.loc i l, sent := upd σ.sent ch (σ.sent ch + 1), val := upd σ.val ch v } := by
  simp only [ChanNet.step, h]
  split <;> simp [*, eq_comm]

theorem step_read {s ch : Nat} {k : Nat → L} (h : N.act i (σ.loc i) = .read s ch k) :
    N.step i σ = some σ' ↔ σ.cnt s < σ.sent ch ∧
      σ' = { σ with loc := upd σ.loc i (k (σ.val ch)), cnt := upd σ.cnt s (σ.cnt s + 1),
                    got := upd σ.got s (σ.got s ++ [σ.val ch]) } := by
  simp only [ChanNet.step, h]
  split <;> simp [*, eq_comm]

/-- the conclusion of the diamond for an ordered pair of agents -/
def Joins (N : ChanNet ι L) (i j : ι) (σ1 σ2 : NState ι L) : Prop :=
  ∃ s3, N.step j σ1 = some s3 ∧ N.step i σ2 = some s3

theorem Joins.symm {j : ι} {σ1 σ2 : NState ι L} (h : Joins N i j σ1 σ2) : Joins N j i σ2 σ1 := by
  obtain ⟨s3, a, b⟩ := h; exact ⟨s3, b, a⟩

theorem join_internal {j : ι} {σ1 σ2 : NState ι L} (hij : i ≠ j) {li : L}
    (hai : N.act i (σ.loc i) = .internal li) (h1 : N.step i σ = some σ1) (h2 : N.step j σ = some σ2) :
    Joins N i j σ1 σ2 := by
  have hji : j ≠ i := fun e => hij e.symm
  cases (step_internal hai).mp h1
  cases haj : N.act j (σ.loc j) with
  | blocked => rw [step_blocked haj] at h2; cases h2
  | internal lj =>
    cases (step_internal haj).mp h2
    exact ⟨_, (step_internal (by simp only [upd_ne _ _ hji]; exact haj)).mpr rfl,
      (step_internal (by simp only [upd_ne _ _ hij]; exact hai)).mpr (by simp only [upd_comm _ _ _ hij])⟩
  | write ch v lj =>
    obtain ⟨en, rfl⟩ := (step_write haj).mp h2
    exact ⟨_, (step_write (by simp only [upd_ne _ _ hji]; exact haj)).mpr ⟨en, rfl⟩,
      (step_internal (by simp only [upd_ne _ _ hij]; exact hai)).mpr (by simp only [upd_comm _ _ _ hij])⟩
  | read s ch k =>
    obtain ⟨en, rfl⟩ := (step_read haj).mp h2
    exact ⟨_, (step_read (by simp only [upd_ne _ _ hji]; exact haj)).mpr ⟨en, rfl⟩,
      (step_internal (by simp only [upd_ne _ _ hij]; exact hai)).mpr (by simp only [upd_comm _ _ _ hij])⟩

theorem join_write_write (h : N.Owned) {j : ι} {σ1 σ2 : NState ι L} (hij : i ≠ j)
    {ch v : Nat} {li : L} {ch' v' : Nat} {lj : L}
    (hai : N.act i (σ.loc i) = .write ch v li) (haj : N.act j (σ.loc j) = .write ch' v' lj)
    (h1 : N.step i σ = some σ1) (h2 : N.step j σ = some σ2) : Joins N i j σ1 σ2 := by
  have hji : j ≠ i := fun e => hij e.symm
  have hch : ch ≠ ch' := by
    rintro rfl
    exact hij ((h.write_own _ _ _ _ _ hai).symm.trans (h.write_own _ _ _ _ _ haj))
  obtain ⟨en1, rfl⟩ := (step_write hai).mp h1
  obtain ⟨en2, rfl⟩ := (step_write haj).mp h2
  exact ⟨_, (step_write (by simp only [upd_ne _ _ hji]; exact haj)).mpr
      ⟨by simp only [upd_ne _ _ hch.symm]; exact en2, rfl⟩,
    (step_write (by simp only [upd_ne _ _ hij]; exact hai)).mpr
      ⟨by simp only [upd_ne _ _ hch]; exact en1,
       by simp only [upd_ne _ _ hch, upd_ne _ _ hch.symm, upd_comm _ _ _ hij, upd_comm _ _ _ hch]⟩⟩

theorem join_write_read (h : N.Owned) {j : ι} {σ1 σ2 : NState ι L} (hij : i ≠ j)
    {ch v : Nat} {li : L} {s ch' : Nat} {k : Nat → L}
    (hai : N.act i (σ.loc i) = .write ch v li) (haj : N.act j (σ.loc j) = .read s ch' k)
    (h1 : N.step i σ = some σ1) (h2 : N.step j σ = some σ2) : Joins N i j σ1 σ2 := by
  have hji : j ≠ i := fun e => hij e.symm
  obtain ⟨_, hs⟩ := h.read_own _ _ _ _ _ haj
  obtain ⟨en1, rfl⟩ := (step_write hai).mp h1
  obtain ⟨en2, rfl⟩ := (step_read haj).mp h2
  -- the place of `ch` is empty and that of `ch'` is not
  have hch : ch' ≠ ch := by
    rintro rfl
    have := List.all_eq_true.mp (Bool.and_eq_true _ _ ▸ en1).2 s hs
    simp only [beq_iff_eq] at this
    omega
  have hslots : ∀ s' ∈ N.slotsOf ch, s' ≠ s := fun s' hs' e => hch (h.slot_chan _ _ _ hs (e ▸ hs'))
  exact ⟨_, (step_read (by simp only [upd_ne _ _ hji]; exact haj)).mpr
      ⟨by simp only [upd_ne _ _ hch]; exact en2, rfl⟩,
    (step_write (by simp only [upd_ne _ _ hij]; exact hai)).mpr
      ⟨by rw [all_cnt_congr _ σ.cnt _ _ fun s' hs' => upd_ne _ _ (hslots s' hs')]; exact en1,
       by simp only [upd_ne _ _ hch, upd_comm _ _ _ hij]⟩⟩

theorem join_read_read (h : N.Owned) {j : ι} {σ1 σ2 : NState ι L} (hij : i ≠ j)
    {s ch : Nat} {k : Nat → L} {s' ch' : Nat} {k' : Nat → L}
    (hai : N.act i (σ.loc i) = .read s ch k) (haj : N.act j (σ.loc j) = .read s' ch' k')
    (h1 : N.step i σ = some σ1) (h2 : N.step j σ = some σ2) : Joins N i j σ1 σ2 := by
  have hji : j ≠ i := fun e => hij e.symm
  have hss : s ≠ s' := by
    rintro rfl
    exact hij ((h.read_own _ _ _ _ _ hai).1.symm.trans (h.read_own _ _ _ _ _ haj).1)
  obtain ⟨en1, rfl⟩ := (step_read hai).mp h1
  obtain ⟨en2, rfl⟩ := (step_read haj).mp h2
  exact ⟨_, (step_read (by simp only [upd_ne _ _ hji]; exact haj)).mpr
      ⟨by simp only [upd_ne _ _ hss.symm]; exact en2, rfl⟩,
    (step_read (by simp only [upd_ne _ _ hij]; exact hai)).mpr
      ⟨by simp only [upd_ne _ _ hss]; exact en1,
       by simp only [upd_ne _ _ hss, upd_ne _ _ hss.symm, upd_comm _ _ _ hij, upd_comm _ _ _ hss]⟩⟩

/-- **a network of sequential agents over one-place channels with fan-out is confluent** -/
theorem chanNet_diamond (N : ChanNet ι L) (h : N.Owned) : N.sys.Diamond := by
  intro i j σ σ1 σ2 hij h1 h2
  have hji : j ≠ i := fun e => hij e.symm
  change N.step i σ = some σ1 at h1
  change N.step j σ = some σ2 at h2
  change Joins N i j σ1 σ2
  cases hai : N.act i (σ.loc i) with
  | blocked => rw [step_blocked hai] at h1; cases h1
  | internal li => exact join_internal hij hai h1 h2
  | write ch v li =>
    cases haj : N.act j (σ.loc j) with
    | blocked => rw [step_blocked haj] at h2; cases h2
    | internal lj => exact (join_internal hji haj h2 h1).symm
    | write ch' v' lj => exact join_write_write h hij hai haj h1 h2
    | read s ch' k => exact join_write_read h hij hai haj h1 h2
  | read s ch k =>
    cases haj : N.act j (σ.loc j) with
    | blocked => rw [step_blocked haj] at h2; cases h2
    | internal lj => exact (join_internal hji haj h2 h1).symm
    | write ch' v' lj => exact (join_write_read h hji haj hai h2 h1).symm
    | read s' ch' k' => exact join_read_read h hij hai haj h1 h2

theorem chanNet_mono (N : ChanNet ι L) (i : ι) (σ σ' : NState ι L) (h : N.sys.step i σ = some σ') (s : Nat) :
    σ.got s <+: σ'.got s := by
  change N.step i σ = some σ' at h
  cases hai : N.act i (σ.loc i) with
  | blocked => rw [step_blocked hai] at h; cases h
  | internal l => cases (step_internal hai).mp h; exact List.prefix_refl _
  | write ch v l => obtain ⟨_, rfl⟩ := (step_write hai).mp h; exact List.prefix_refl _
  | read s0 ch k =>
    obtain ⟨_, rfl⟩ := (step_read hai).mp h
    by_cases e : s = s0
    · subst e; simp only [upd_same]; exact List.prefix_append _ _
    · simp only [upd_ne _ _ e]; exact List.prefix_refl _

end BMV.Kpn
