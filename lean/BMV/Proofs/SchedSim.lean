/-
  Helper lemmas for BMV.SchedSim (property C09).
-/
import BMV.SchedSim
namespace BMV.SchedSim

/-! ### steps with disjoint footprints commute: the schedule is irrelevant -/

theorem upd_same {α : Type} (f : Nat → α) (i : Nat) (v : α) : upd f i v i = v := by simp [upd]

theorem upd_other {α : Type} (f : Nat → α) (i j : Nat) (v : α) (h : j ≠ i) : upd f i v j = f j := by
  simp [upd, h]

/-- globals-free workers: whatever the order, the fold is the pointwise parallel step -/
theorem foldl_stepOne_free (m : Machine) (hfree : ∀ i, GlobalsFree (m.proc i)) (σ : List Nat)
    (hnd : σ.Nodup) (g : Globals) (c : Cells) :
    σ.foldl (stepOne m) (g, c)
      = (g, fun j => if j ∈ σ then (m.proc j [] (c j)).2 else c j) := by
  induction σ generalizing c with
  | nil => simp
  | cons i σ ih =>
    have hnd' := (List.nodup_cons.mp hnd).2
    have hi : i ∉ σ := (List.nodup_cons.mp hnd).1
    simp only [List.foldl_cons, stepOne]
    rw [hfree i g (c i), ih hnd']
    congr 1
    funext j
    by_cases hj : j = i
    · subst hj
      simp [hi, upd_same]
    · simp [hj, upd_other _ _ _ _ hj]

theorem foldl_stepOne_complete (m : Machine) (hfree : ∀ i, GlobalsFree (m.proc i)) (n : Nat)
    (σ : List Nat) (hc : Complete n σ) (g : Globals) (c : Cells) :
    σ.foldl (stepOne m) (g, c)
      = (g, fun j => if j < n then (m.proc j [] (c j)).2 else c j) := by
  rw [foldl_stepOne_free m hfree σ hc.1]
  congr 1
  funext j
  simp [hc.2 j]

/-! ### isolation of simulations that share only untouched Globals -/

theorem evApply1_free (m : Machine) (hfree : ∀ i, GlobalsFree (m.proc i)) (g g' : Globals)
    (st : BmState) (e : Ev) :
    evApply1 m (g, st) e = (g, (evApply1 m (g', st) e).2) := by
  cases e with
  | pre a => rfl
  | post a => rfl
  | step a i =>
    simp only [evApply1]
    rw [hfree i g, hfree i g']

theorem runEvs1_free (m : Machine) (hfree : ∀ i, GlobalsFree (m.proc i)) (g g' : Globals)
    (evs : List Ev) (st : BmState) :
    runEvs1 m (g, st) evs = (g, (runEvs1 m (g', st) evs).2) := by
  induction evs generalizing st with
  | nil => rfl
  | cons e es ih =>
    simp only [runEvs1, List.foldl_cons]
    rw [evApply1_free m hfree g g' st e]
    have h2 : evApply1 m (g', st) e = (g', (evApply1 m (g', st) e).2) := by
      rw [evApply1_free m hfree g' g' st e]
    rw [h2]
    exact ih _

/-- the product run, projected on simulation a, is a's own events run alone -/
theorem runEvs_proj (ms : Nat → Machine) (hfree : ∀ a i, GlobalsFree ((ms a).proc i)) (a : Nat)
    (evs : List Ev) (g : Globals) (S : Nat → BmState) :
    (runEvs ms (g, S) evs).1 = g ∧
    (runEvs ms (g, S) evs).2 a = (runEvs1 (ms a) (g, S a) (evs.filter fun e => e.sim = a)).2 := by
  induction evs generalizing S with
  | nil => exact ⟨rfl, rfl⟩
  | cons e es ih =>
    simp only [runEvs, List.foldl_cons, evApply]
    have he := evApply1_free (ms e.sim) (hfree e.sim) g g (S e.sim) e
    rw [he]
    have ih' := ih (upd S e.sim (evApply1 (ms e.sim) (g, S e.sim) e).2)
    simp only [runEvs] at ih'
    refine ⟨ih'.1, ?_⟩
    rw [ih'.2]
    by_cases hs : e.sim = a
    · subst hs
      simp only [List.filter_cons, decide_true, if_true, runEvs1, List.foldl_cons, upd_same]
      rw [he]
    · have : (decide (e.sim = a)) = false := by simp [hs]
      simp only [List.filter_cons, this]
      rw [upd_other _ _ _ _ (Ne.symm hs)]
      rfl

/-- with its phase cell in the processor's own state a pipelined operation leaves `Globals` alone -/
theorem pipelined_local (gcell lcell : Nat) (f : Nat → Nat → Nat) (mod r s : Nat) :
    GlobalsFree (pipelined false gcell lcell f mod r s) := by
  intro g c
  simp only [pipelined, Bool.false_eq_true, if_false]
  split <;> rfl

/-! ### the barrier protocol -/

def nonIdle : WSt → Nat
  | .idle => 0
  | _ => 1

def busy : List WSt → Nat
  | [] => 0
  | w :: ws => nonIdle w + busy ws

theorem busy_setW (ws : List WSt) (i : Nat) (w x : WSt) (h : getW ws i = some w) :
    busy (setW ws i x) + nonIdle w = busy ws + nonIdle x := by
  induction ws generalizing i with
  | nil => simp [getW] at h
  | cons y ys ih =>
    cases i with
    | zero =>
      simp only [getW, Option.some.injEq] at h
      subst h
      simp only [setW, busy]; omega
    | succ i =>
      simp only [getW] at h
      have := ih i h
      simp only [setW, busy]; omega

theorem length_setW (ws : List WSt) (i : Nat) (x : WSt) : (setW ws i x).length = ws.length := by
  induction ws generalizing i with
  | nil => rfl
  | cons y ys ih => cases i <;> simp [setW, ih]

theorem getW_setW_same (ws : List WSt) (i : Nat) (w x : WSt) (h : getW ws i = some w) :
    getW (setW ws i x) i = some x := by
  induction ws generalizing i with
  | nil => simp [getW] at h
  | cons y ys ih =>
    cases i with
    | zero => rfl
    | succ i => exact ih i h

theorem getW_setW_other (ws : List WSt) (a b : Nat) (x : WSt) (hab : a ≠ b) :
    getW (setW ws b x) a = getW ws a := by
  induction ws generalizing a b with
  | nil => rfl
  | cons y ys ih =>
    cases a <;> cases b <;> simp_all [setW, getW]

theorem busy_zero (ws : List WSt) (h : busy ws = 0) (i : Nat) (w : WSt) (hg : getW ws i = some w) :
    w = .idle := by
  have h0 : nonIdle w = 0 := by
    have := busy_setW ws i w .idle hg
    have : nonIdle .idle = 0 := rfl
    omega
  cases w with
  | idle => rfl
  | _ => exact absurd h0 (by decide)

theorem busy_replicate (P : Nat) : busy (List.replicate P WSt.idle) = 0 := by
  induction P with
  | zero => rfl
  | succ P ih => simp [List.replicate_succ, busy, nonIdle, ih]

/-- the inductive invariant of the barrier: the number of workers that are not idle is determined by
    main's program counter -/
def BInv (P : Nat) (s : BSt) : Prop :=
  s.ws.length = P ∧
  match s.main with
  | .pre | .moving => busy s.ws = 0
  | .sending k => busy s.ws = k ∧ k < P
  | .collecting c | .waitResult c _ => busy s.ws + c = P ∧ c < P

theorem binv_init (P : Nat) : BInv P (binit P) := by
  simp [BInv, binit, busy_replicate]

/-- every joint transition replaces one worker state by the next one of its cycle
    (`busy_setW` says what that does to the count) and moves main accordingly -/
theorem binv_step (P : Nat) (s s' : BSt) (a : BAct) (hi : BInv P s) (hs : bstep s a = some s') :
    BInv P s' := by
  obtain ⟨main, ws⟩ := s
  obtain ⟨hlen, hm⟩ := hi
  simp only at hlen hm
  cases a with
  | startTick =>
    cases main with
    | pre =>
      cases hs
      refine ⟨hlen, ?_⟩
      by_cases h0 : ws.length = 0
      · simp only [h0, if_true]; exact hm
      · simp only [h0, if_false]; exact ⟨hm, by omega⟩
    | _ => cases hs
  | token =>
    cases main with
    | sending k =>
      simp only [bstep] at hs
      split at hs
      · rename_i hidle
        cases hs
        have hb := busy_setW ws k .idle .stepping hidle
        simp only [nonIdle] at hb
        refine ⟨(length_setW ..).trans hlen, ?_⟩
        by_cases hk : k + 1 = ws.length
        · simp only [hk, if_true]; constructor <;> omega
        · simp only [hk, if_false]; constructor <;> omega
      · cases hs
    | _ => cases hs
  | finish i =>
    simp only [bstep] at hs
    split at hs
    · rename_i hst
      cases hs
      have hb := busy_setW ws i .stepping .answering hst
      simp only [nonIdle, Nat.add_right_cancel_iff] at hb
      refine ⟨(length_setW ..).trans hlen, ?_⟩
      cases main <;> simp only [hb] <;> exact hm
    · cases hs
  | answer i =>
    cases main with
    | collecting c =>
      simp only [bstep] at hs
      split at hs
      · rename_i hans
        cases hs
        have hb := busy_setW ws i .answering .resulting hans
        simp only [nonIdle, Nat.add_right_cancel_iff] at hb
        exact ⟨(length_setW ..).trans hlen, by simp only [hb]; exact hm⟩
      · cases hs
    | _ => cases hs
  | result i =>
    cases main with
    | waitResult c j =>
      simp only [bstep] at hs
      split at hs
      · rename_i hres
        cases hs
        have hb := busy_setW ws i .resulting .idle hres.2
        simp only [nonIdle] at hb
        refine ⟨(length_setW ..).trans hlen, ?_⟩
        by_cases hc : c + 1 = ws.length
        · simp only [hc, if_true]; omega
        · simp only [hc, if_false]; constructor <;> omega
      · cases hs
    | _ => cases hs
  | endTick =>
    cases main with
    | moving => cases hs; exact ⟨hlen, hm⟩
    | _ => cases hs

theorem binv_reach (P : Nat) (s : BSt) (h : BReach P s) : BInv P s := by
  induction h with
  | init => exact binv_init P
  | step a _ hs ih => exact binv_step P _ _ a ih hs

end BMV.SchedSim
