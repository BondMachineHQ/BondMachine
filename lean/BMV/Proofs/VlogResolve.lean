/-
  C18, towards `wf_total`: what name resolution establishes — resolved expressions are identifier-free
  and in range w.r.t. the scope's signals.
-/
import BMV.Proofs.VlogTotal
namespace BMV.Vlog

/-- every signal a scope knows exists -/
def ScOk (sc : Scope) (n : Nat) : Prop := ∀ (name : String) (i : Nat), sc[name]? = some (.sig i) → i < n

mutual
theorem wfE_mono {n m : Nat} (hnm : n ≤ m) : ∀ (e : Expr), wfE n e = true → wfE m e = true
  | .id _, h => by simp [wfE] at h
  | .num _ _, _ => by simp [wfE]
  | .sig i, h => by simp only [wfE, decide_eq_true_eq] at h ⊢; omega
  | .idx b i, h => by
    simp only [wfE, Bool.and_eq_true] at h ⊢
    exact ⟨wfE_mono hnm b h.1, wfE_mono hnm i h.2⟩
  | .rng b x l, h => by
    simp only [wfE, Bool.and_eq_true] at h ⊢
    exact ⟨⟨wfE_mono hnm b h.1.1, wfE_mono hnm x h.1.2⟩, wfE_mono hnm l h.2⟩
  | .ipart b s w _, h => by
    simp only [wfE, Bool.and_eq_true] at h ⊢
    exact ⟨⟨wfE_mono hnm b h.1.1, wfE_mono hnm s h.1.2⟩, wfE_mono hnm w h.2⟩
  | .cat es, h => by simp only [wfE] at h ⊢; exact wfEL_mono hnm es h
  | .rep c es, h => by
    simp only [wfE, Bool.and_eq_true] at h ⊢
    exact ⟨wfE_mono hnm c h.1, wfEL_mono hnm es h.2⟩
  | .un _ e, h => by simp only [wfE] at h ⊢; exact wfE_mono hnm e h
  | .bin _ a b, h => by
    simp only [wfE, Bool.and_eq_true] at h ⊢
    exact ⟨wfE_mono hnm a h.1, wfE_mono hnm b h.2⟩
  | .cond c a b, h => by
    simp only [wfE, Bool.and_eq_true] at h ⊢
    exact ⟨⟨wfE_mono hnm c h.1.1, wfE_mono hnm a h.1.2⟩, wfE_mono hnm b h.2⟩
theorem wfEL_mono {n m : Nat} (hnm : n ≤ m) : ∀ (es : List Expr), wfEL n es = true → wfEL m es = true
  | [], _ => by simp [wfEL]
  | e :: es, h => by
    simp only [wfEL, Bool.and_eq_true] at h ⊢
    exact ⟨wfE_mono hnm e h.1, wfEL_mono hnm es h.2⟩
end

mutual
theorem resolveExpr_wf (sc : Scope) (n : Nat) (hsc : ScOk sc n) :
    ∀ (e e' : Expr), srcE e = true → resolveExpr sc e = .ok e' → wfE n e' = true
  | .num w v, e', _, h => by
    simp only [resolveExpr, pure, Except.pure, Except.ok.injEq] at h; subst h; rfl
  | .sig i, e', hs, _ => by simp [srcE] at hs
  | .id name, e', _, h => by
    unfold resolveExpr at h
    split at h
    · rename_i i heq
      simp only [pure, Except.pure, Except.ok.injEq] at h; subst h
      simp only [wfE, decide_eq_true_eq]
      exact hsc name i heq
    · simp only [pure, Except.pure, Except.ok.injEq] at h; subst h; rfl
    · simp [throw, throwThe, MonadExceptOf.throw] at h
  | .idx b i, e', hs, h => by
    simp only [srcE, Bool.and_eq_true] at hs
    unfold resolveExpr at h
    obtain ⟨b', hb, h⟩ := bind_ok h
    obtain ⟨i', hi, h⟩ := bind_ok h
    simp only [pure, Except.pure, Except.ok.injEq] at h; subst h
    simp [wfE, resolveExpr_wf sc n hsc b b' hs.1 hb, resolveExpr_wf sc n hsc i i' hs.2 hi]
  | .rng b m l, e', hs, h => by
    simp only [srcE, Bool.and_eq_true] at hs
    unfold resolveExpr at h
    obtain ⟨m', _, h⟩ := bind_ok h
    obtain ⟨mv, _, h⟩ := bind_ok h
    obtain ⟨l', _, h⟩ := bind_ok h
    obtain ⟨lv, _, h⟩ := bind_ok h
    obtain ⟨b', hb, h⟩ := bind_ok h
    simp only [pure, Except.pure, Except.ok.injEq] at h; subst h
    simp [wfE, resolveExpr_wf sc n hsc b b' hs.1.1 hb]
  | .ipart b s w up, e', hs, h => by
    simp only [srcE, Bool.and_eq_true] at hs
    unfold resolveExpr at h
    obtain ⟨w', _, h⟩ := bind_ok h
    obtain ⟨wv, _, h⟩ := bind_ok h
    obtain ⟨b', hb, h⟩ := bind_ok h
    obtain ⟨s', hs', h⟩ := bind_ok h
    simp only [pure, Except.pure, Except.ok.injEq] at h; subst h
    simp [wfE, resolveExpr_wf sc n hsc b b' hs.1.1 hb, resolveExpr_wf sc n hsc s s' hs.1.2 hs']
  | .cat es, e', hs, h => by
    simp only [srcE] at hs
    unfold resolveExpr at h
    obtain ⟨es', hes, h⟩ := bind_ok h
    simp only [pure, Except.pure, Except.ok.injEq] at h; subst h
    simp [wfE, resolveExprs_wf sc n hsc es es' hs hes]
  | .rep c es, e', hs, h => by
    simp only [srcE, Bool.and_eq_true] at hs
    unfold resolveExpr at h
    obtain ⟨n', _, h⟩ := bind_ok h
    obtain ⟨nv, _, h⟩ := bind_ok h
    obtain ⟨es', hes, h⟩ := bind_ok h
    simp only [pure, Except.pure, Except.ok.injEq] at h; subst h
    simp [wfE, resolveExprs_wf sc n hsc es es' hs.2 hes]
  | .un op e, e', hs, h => by
    simp only [srcE] at hs
    unfold resolveExpr at h
    obtain ⟨x, hx, h⟩ := bind_ok h
    simp only [pure, Except.pure, Except.ok.injEq] at h; subst h
    simp [wfE, resolveExpr_wf sc n hsc e x hs hx]
  | .bin op a b, e', hs, h => by
    simp only [srcE, Bool.and_eq_true] at hs
    unfold resolveExpr at h
    obtain ⟨a', ha, h⟩ := bind_ok h
    obtain ⟨b', hb, h⟩ := bind_ok h
    simp only [pure, Except.pure, Except.ok.injEq] at h; subst h
    simp [wfE, resolveExpr_wf sc n hsc a a' hs.1 ha, resolveExpr_wf sc n hsc b b' hs.2 hb]
  | .cond c a b, e', hs, h => by
    simp only [srcE, Bool.and_eq_true] at hs
    unfold resolveExpr at h
    obtain ⟨c', hc, h⟩ := bind_ok h
    obtain ⟨a', ha, h⟩ := bind_ok h
    obtain ⟨b', hb, h⟩ := bind_ok h
    simp only [pure, Except.pure, Except.ok.injEq] at h; subst h
    simp [wfE, resolveExpr_wf sc n hsc c c' hs.1.1 hc, resolveExpr_wf sc n hsc a a' hs.1.2 ha,
      resolveExpr_wf sc n hsc b b' hs.2 hb]
theorem resolveExprs_wf (sc : Scope) (n : Nat) (hsc : ScOk sc n) :
    ∀ (es es' : List Expr), srcEL es = true → resolveExprs sc es = .ok es' → wfEL n es' = true
  | [], es', _, h => by
    simp only [resolveExprs, pure, Except.pure, Except.ok.injEq] at h; subst h; rfl
  | e :: es, es', hs, h => by
    simp only [srcEL, Bool.and_eq_true] at hs
    unfold resolveExprs at h
    obtain ⟨x, hx, h⟩ := bind_ok h
    obtain ⟨xs, hxs, h⟩ := bind_ok h
    simp only [pure, Except.pure, Except.ok.injEq] at h; subst h
    simp [wfEL, resolveExpr_wf sc n hsc e x hs.1 hx, resolveExprs_wf sc n hsc es xs hs.2 hxs]
end



theorem em_bind_ok {α β : Type} {x : EM α} {f : α → EM β} {s : ElabSt} {r : β × ElabSt}
    (h : (x >>= f) s = .ok r) : ∃ a s1, x s = .ok (a, s1) ∧ f a s1 = .ok r := by
  simp only [bind, StateT.bind] at h
  cases hx : x s with
  | error e => rw [hx] at h; simp [Except.bind] at h
  | ok p => rw [hx] at h; exact ⟨p.1, p.2, rfl, h⟩

theorem em_liftE {α : Type} {r : R α} {s s' : ElabSt} {a : α}
    (h : (liftM r : EM α) s = .ok (a, s')) : r = .ok a ∧ s' = s := by
  simp only [liftM, monadLift, MonadLift.monadLift, StateT.lift, bind, Except.bind] at h
  cases r with
  | error e => simp at h
  | ok b => simp [pure, Except.pure] at h; exact ⟨by rw [h.1], h.2.symm⟩

theorem em_get_ok {s s' a : ElabSt} (h : (get : EM ElabSt) s = .ok (a, s')) : a = s ∧ s' = s := by
  simp [get, getThe, MonadStateOf.get, StateT.get, pure, Except.pure] at h
  exact ⟨h.1.symm, h.2.symm⟩

theorem em_set_ok {v s s' : ElabSt} {a : PUnit} (h : (set v : EM PUnit) s = .ok (a, s')) : s' = v := by
  simp [set, MonadStateOf.set, StateT.set, pure, Except.pure] at h
  exact h.symm

theorem em_pure_ok {α : Type} {a b : α} {s s' : ElabSt} (h : (pure a : EM α) s = .ok (b, s')) : b = a ∧ s' = s := by
  simp [pure, StateT.pure, Except.pure] at h
  exact ⟨h.1.symm, h.2.symm⟩

theorem em_modify_ok {f : ElabSt → ElabSt} {s s' : ElabSt} {a : PUnit}
    (h : (modify f : EM PUnit) s = .ok (a, s')) : s' = f s := by
  simp [modify, modifyGet, MonadStateOf.modifyGet, StateT.modifyGet, pure, Except.pure] at h
  exact h.symm

theorem em_efail {α : Type} {m : String} {s : ElabSt} {r : α × ElabSt} (h : (efail m : EM α) s = .ok r) : False := by
  simp [efail, throw, throwThe, MonadExceptOf.throw, StateT.lift, liftM, monadLift, MonadLift.monadLift, bind, Except.bind] at h


/-- partial correctness in the elaboration monad: whenever `x` succeeds from `s`, `Q` holds of its
    result and final state.  The rules below follow the shape of a `do` block, as `Safe.*` do for
    the evaluator. -/
def EMSpec {α : Type} (x : EM α) (s : ElabSt) (Q : α → ElabSt → Prop) : Prop :=
  ∀ a s', x s = .ok (a, s') → Q a s'

section
variable {α β : Type} {s : ElabSt} {Q : β → ElabSt → Prop}

theorem EMSpec.pure {b : β} (h : Q b s) : EMSpec (pure b) s Q := fun _ _ hb => by
  obtain ⟨rfl, rfl⟩ := em_pure_ok hb; exact h

theorem EMSpec.fail {m : String} : EMSpec (efail m) s Q := fun _ _ h => (em_efail h).elim

theorem EMSpec.ite {c : Prop} [Decidable c] {x y : EM β} (hx : c → EMSpec x s Q) (hy : ¬c → EMSpec y s Q) :
    EMSpec (if c then x else y) s Q := by
  split
  · exact hx ‹_›
  · exact hy ‹_›

theorem EMSpec.bind {x : EM α} {f : α → EM β} {Q1 : α → ElabSt → Prop} (hx : EMSpec x s Q1)
    (hf : ∀ a s1, Q1 a s1 → EMSpec (f a) s1 Q) : EMSpec (x >>= f) s Q := fun b s' h => by
  obtain ⟨a, s1, h1, h2⟩ := em_bind_ok h
  exact hf a s1 (hx a s1 h1) b s' h2

/-- a pure step (`← (r : R _)`) leaves the state alone -/
theorem EMSpec.lift {r : R α} {f : α → EM β} (h : ∀ a, r = .ok a → EMSpec (f a) s Q) :
    EMSpec (liftM r >>= f) s Q := fun b s' hb => by
  obtain ⟨a, s1, h1, h2⟩ := em_bind_ok hb
  obtain ⟨ha, rfl⟩ := em_liftE h1
  exact h a ha b s' h2

theorem EMSpec.get {f : ElabSt → EM β} (h : EMSpec (f s) s Q) : EMSpec (get >>= f) s Q := fun b s' hb => by
  obtain ⟨a, s1, h1, h2⟩ := em_bind_ok hb
  obtain ⟨rfl, rfl⟩ := em_get_ok h1
  exact h b s' h2

theorem EMSpec.set {v : ElabSt} {f : PUnit → EM β} (h : EMSpec (f ⟨⟩) v Q) : EMSpec (set v >>= f) s Q :=
  fun b s' hb => by
  obtain ⟨a, s1, h1, h2⟩ := em_bind_ok hb
  cases em_set_ok h1
  exact h b s' h2

theorem EMSpec.modify {g : ElabSt → ElabSt} {f : PUnit → EM β} (h : EMSpec (f ⟨⟩) (g s) Q) :
    EMSpec (modify g >>= f) s Q := fun b s' hb => by
  obtain ⟨a, s1, h1, h2⟩ := em_bind_ok hb
  cases em_modify_ok h1
  exact h b s' h2
end

/-- `st'` differs from `st` only by more (or updated) signals -/
structure SigExt (st st' : ElabSt) : Prop where
  size : st.sigs.size ≤ st'.sigs.size
  assigns : st'.assigns = st.assigns
  combs : st'.combs = st.combs
  procs : st'.procs = st.procs
  inits : st'.inits = st.inits

theorem SigExt.refl (st : ElabSt) : SigExt st st := ⟨Nat.le_refl _, rfl, rfl, rfl, rfl⟩
theorem SigExt.trans {a b c : ElabSt} (h1 : SigExt a b) (h2 : SigExt b c) : SigExt a c :=
  ⟨Nat.le_trans h1.size h2.size, h2.assigns.trans h1.assigns, h2.combs.trans h1.combs,
   h2.procs.trans h1.procs, h2.inits.trans h1.inits⟩

theorem ScOk.mono {sc : Scope} {n m : Nat} (h : ScOk sc n) (hnm : n ≤ m) : ScOk sc m :=
  fun name i hi => Nat.lt_of_lt_of_le (h name i hi) hnm

theorem ScOk.insert_sig {sc : Scope} {n : Nat} (h : ScOk sc n) (name : String) (i : Nat) (hi : i < n) :
    ScOk (sc.insert name (.sig i)) n := by
  intro name' j hj
  rw [Std.HashMap.getElem?_insert] at hj
  split at hj
  · simp at hj; omega
  · exact h name' j hj

theorem ScOk.insert_const {sc : Scope} {n : Nat} (h : ScOk sc n) (name : String) (w v : Nat) :
    ScOk (sc.insert name (.const w v)) n := by
  intro name' j hj
  rw [Std.HashMap.getElem?_insert] at hj
  split at hj
  · simp at hj
  · exact h name' j hj

theorem declare_spec (sc : Scope) (pfx : String) (isTop : Bool) (d : Decl) (nm : DeclName) (s s' : ElabSt) (sc' : Scope)
    (hsc : ScOk sc s.sigs.size) (h : declare sc pfx isTop d nm s = .ok (sc', s')) :
    ScOk sc' s'.sigs.size ∧ SigExt s s' := by
  refine (?_ : EMSpec _ s fun sc' s' => ScOk sc' s'.sigs.size ∧ SigExt s s') sc' s' h
  -- completing a port rewrites one signal in place: same scope, same number of signals
  have hset : ∀ (i : Nat) (x : Sig), EMSpec (set { s with sigs := s.sigs.set! i x } >>= fun _ => pure sc) s
      fun sc' s' => ScOk sc' s'.sigs.size ∧ SigExt s s' := fun i x =>
    .set (.pure ⟨by simpa [Array.set!] using hsc, by simp [Array.set!], rfl, rfl, rfl, rfl⟩)
  unfold declare
  refine .lift fun (w, lsb) _ => .lift fun (depth, memLo) _ => ?_
  dsimp only
  split
  · exact .fail
  · exact .get (.ite (fun _ => hset _ _) fun _ => .ite (fun _ => hset _ _) fun _ => .fail)
  · refine .get (.set (.pure ⟨?_, by simp, rfl, rfl, rfl, rfl⟩))
    rw [Array.size_push]
    exact (hsc.mono (Nat.le_succ _)).insert_sig _ _ (Nat.lt_succ_self _)

theorem declareAll_spec (pfx : String) (isTop : Bool) (d : Decl) : ∀ (ns : List DeclName) (sc : Scope) (s s' : ElabSt) (sc' : Scope),
    ScOk sc s.sigs.size → declareAll sc pfx isTop d ns s = .ok (sc', s') → ScOk sc' s'.sigs.size ∧ SigExt s s'
  | [], sc, s, s', sc', hsc, h => by
    unfold declareAll at h
    obtain ⟨rfl, rfl⟩ := em_pure_ok h
    exact ⟨hsc, SigExt.refl _⟩
  | n :: ns, sc, s, s', sc', hsc, h => by
    unfold declareAll at h
    obtain ⟨sc1, s1, h1, h⟩ := em_bind_ok h
    obtain ⟨hsc1, he1⟩ := declare_spec sc pfx isTop d n s s1 sc1 hsc h1
    obtain ⟨hsc2, he2⟩ := declareAll_spec pfx isTop d ns sc1 s1 s' sc' hsc1 h
    exact ⟨hsc2, he1.trans he2⟩

theorem declareDecls_spec (pfx : String) (isTop : Bool) : ∀ (ds : List Decl) (sc : Scope) (s s' : ElabSt) (sc' : Scope),
    ScOk sc s.sigs.size → declareDecls sc pfx isTop ds s = .ok (sc', s') → ScOk sc' s'.sigs.size ∧ SigExt s s'
  | [], sc, s, s', sc', hsc, h => by
    unfold declareDecls at h
    obtain ⟨rfl, rfl⟩ := em_pure_ok h
    exact ⟨hsc, SigExt.refl _⟩
  | d :: ds, sc, s, s', sc', hsc, h => by
    unfold declareDecls at h
    obtain ⟨sc1, s1, h1, h⟩ := em_bind_ok h
    obtain ⟨hsc1, he1⟩ := declareAll_spec pfx isTop d d.names sc s s1 sc1 hsc h1
    obtain ⟨hsc2, he2⟩ := declareDecls_spec pfx isTop ds sc1 s1 s' sc' hsc1 h
    exact ⟨hsc2, he1.trans he2⟩




mutual
theorem wfS_mono {n m : Nat} (hnm : n ≤ m) : ∀ (s : Stmt), wfS n s = true → wfS m s = true
  | .null, _ => rfl
  | .assign _ l r, h => by
    simp only [wfS, Bool.and_eq_true] at h ⊢
    exact ⟨wfE_mono hnm l h.1, wfE_mono hnm r h.2⟩
  | .ite c t e, h => by
    simp only [wfS, Bool.and_eq_true] at h ⊢
    exact ⟨⟨wfE_mono hnm c h.1.1, wfS_mono hnm t h.1.2⟩, wfS_mono hnm e h.2⟩
  | .block _ _ ss, h => by simp only [wfS] at h ⊢; exact wfSL_mono hnm ss h
  | .case e items d, h => by
    simp only [wfS, Bool.and_eq_true] at h ⊢
    exact ⟨⟨wfE_mono hnm e h.1.1, wfItems_mono hnm items h.1.2⟩, wfS_mono hnm d h.2⟩
  | .for _ _ _ _, h => by simp [wfS] at h
theorem wfSL_mono {n m : Nat} (hnm : n ≤ m) : ∀ (ss : List Stmt), wfSL n ss = true → wfSL m ss = true
  | [], _ => rfl
  | s :: ss, h => by
    simp only [wfSL, Bool.and_eq_true] at h ⊢
    exact ⟨wfS_mono hnm s h.1, wfSL_mono hnm ss h.2⟩
theorem wfItems_mono {n m : Nat} (hnm : n ≤ m) : ∀ (its : List (List Expr × Stmt)), wfItems n its = true → wfItems m its = true
  | [], _ => rfl
  | (ls, b) :: rest, h => by
    simp only [wfItems, Bool.and_eq_true] at h ⊢
    exact ⟨⟨wfEL_mono hnm ls h.1.1, wfS_mono hnm b h.1.2⟩, wfItems_mono hnm rest h.2⟩
end

theorem wfSL_append {n : Nat} : ∀ (a b : List Stmt), wfSL n a = true → wfSL n b = true → wfSL n (a ++ b) = true
  | [], b, _, hb => hb
  | x :: a, b, ha, hb => by
    simp only [wfSL, Bool.and_eq_true, List.cons_append] at ha ⊢
    exact ⟨ha.1, wfSL_append a b ha.2 hb⟩

theorem unrollFor_wf (n i : Nat) (hi : i < n) (c f : Expr) (body : Stmt) (hb : wfS n body = true) :
    ∀ (fuel v : Nat) (acc r : Array Stmt), wfSL n acc.toList = true →
      unrollFor i c f body fuel v acc = .ok r → wfSL n r.toList = true
  | 0, _, _, _, _, h => by
    unfold unrollFor at h
    simp [throw, throwThe, MonadExceptOf.throw] at h
  | fuel + 1, v, acc, r, hacc, h => by
    unfold unrollFor at h
    simp only [] at h
    obtain ⟨cv, _, h⟩ := bind_ok h
    have hacc1 : wfSL n (acc.push (.assign true (.sig i) (.num (some 32) v))).toList = true := by
      simp only [Array.toList_push]
      exact wfSL_append _ _ hacc (by simp [wfSL, wfS, wfE, hi])
    split at h
    · simp only [pure, Except.pure, Except.ok.injEq] at h; subst h; exact hacc1
    · obtain ⟨v', _, h⟩ := bind_ok h
      refine unrollFor_wf n i hi c f body hb fuel _ _ r ?_ h
      simp only [Array.toList_push]
      exact wfSL_append _ _ (by simpa using hacc1) (by simp [wfSL, hb])


mutual
theorem resolveStmt_em (sc : Scope) (pfx : String) : ∀ (t : Stmt) (s : ElabSt), ScOk sc s.sigs.size → srcS t = true →
    EMSpec (resolveStmt sc pfx t) s fun t' s' => wfS s'.sigs.size t' = true ∧ SigExt s s'
  | .null, s, _, _ => .pure ⟨rfl, .refl _⟩
  | .assign b l r, s, hsc, hs => by
    simp only [srcS, Bool.and_eq_true] at hs
    unfold resolveStmt
    refine .lift fun l' hl => .lift fun r' hr => .pure ⟨?_, .refl _⟩
    exact band (resolveExpr_wf sc _ hsc l l' hs.1 hl) (resolveExpr_wf sc _ hsc r r' hs.2 hr)
  | .ite c t e, s, hsc, hs => by
    simp only [srcS, Bool.and_eq_true] at hs
    unfold resolveStmt
    refine .lift fun c' hc => .bind (resolveStmt_em sc pfx t s hsc hs.1.2) fun t1 s1 ⟨hw1, he1⟩ =>
      .bind (resolveStmt_em sc pfx e s1 (hsc.mono he1.size) hs.2) fun e1 s2 ⟨hw2, he2⟩ =>
      .pure ⟨?_, he1.trans he2⟩
    exact band (band (wfE_mono (he1.trans he2).size _ (resolveExpr_wf sc _ hsc c c' hs.1.1 hc))
      (wfS_mono he2.size _ hw1)) hw2
  | .block label locals ss, s, hsc, hs => by
    unfold resolveStmt
    refine .bind (fun sc1 s1 h1 => declareDecls_spec _ false locals sc s s1 sc1 hsc h1) fun sc1 s1 ⟨hsc1, he1⟩ =>
      .bind (resolveStmts_em sc1 _ ss s1 hsc1 hs) fun ss' s2 ⟨hw2, he2⟩ => .pure ⟨hw2, he1.trans he2⟩
  | .case e items dflt, s, hsc, hs => by
    simp only [srcS, Bool.and_eq_true] at hs
    unfold resolveStmt
    refine .lift fun e' he => .bind (resolveItems_em sc pfx items s hsc hs.1.2) fun its' s1 ⟨hw1, he1⟩ =>
      .bind (resolveStmt_em sc pfx dflt s1 (hsc.mono he1.size) hs.2) fun d' s2 ⟨hw2, he2⟩ =>
      .pure ⟨?_, he1.trans he2⟩
    exact band (band (wfE_mono (he1.trans he2).size _ (resolveExpr_wf sc _ hsc e e' hs.1.1 he))
      (wfItems_mono he2.size _ hw1)) hw2
  | .for init c step body, s, hsc, hs => by
    simp only [srcS, Bool.and_eq_true] at hs
    unfold resolveStmt
    refine .bind (resolveStmt_em sc pfx body s hsc hs.2) fun body' s1 ⟨hwb, heb⟩ => .lift fun c' _ => ?_
    split
    · next il ie sl se =>
      simp only [srcS, Bool.and_eq_true] at hs
      refine .lift fun il' hil => .lift fun sl' _ => .lift fun se' _ => ?_
      split
      · refine .ite (fun _ => .fail) fun _ => .lift fun ie' _ => .lift fun v0 _ => .lift fun ssr hun =>
          .pure ⟨?_, heb⟩
        have hi := resolveExpr_wf sc _ (hsc.mono heb.size) il _ hs.1.1.1.1 hil
        exact unrollFor_wf _ _ (of_decide_eq_true hi) c' se' body' hwb _ _ #[] ssr rfl hun
      · exact .fail
    · exact .fail
theorem resolveStmts_em (sc : Scope) (pfx : String) : ∀ (ts : List Stmt) (s : ElabSt), ScOk sc s.sigs.size →
    srcSL ts = true → EMSpec (resolveStmts sc pfx ts) s fun ts' s' => wfSL s'.sigs.size ts' = true ∧ SigExt s s'
  | [], s, _, _ => .pure ⟨rfl, .refl _⟩
  | t :: ts, s, hsc, hs => by
    simp only [srcSL, Bool.and_eq_true] at hs
    unfold resolveStmts
    exact .bind (resolveStmt_em sc pfx t s hsc hs.1) fun t1 s1 ⟨hw1, he1⟩ =>
      .bind (resolveStmts_em sc pfx ts s1 (hsc.mono he1.size) hs.2) fun ts1 s2 ⟨hw2, he2⟩ =>
      .pure ⟨band (wfS_mono he2.size _ hw1) hw2, he1.trans he2⟩
theorem resolveItems_em (sc : Scope) (pfx : String) : ∀ (its : List (List Expr × Stmt)) (s : ElabSt),
    ScOk sc s.sigs.size → srcItems its = true →
    EMSpec (resolveItems sc pfx its) s fun its' s' => wfItems s'.sigs.size its' = true ∧ SigExt s s'
  | [], s, _, _ => .pure ⟨rfl, .refl _⟩
  | (ls, b) :: rest, s, hsc, hs => by
    simp only [srcItems, Bool.and_eq_true] at hs
    unfold resolveItems
    refine .lift fun ls' hls => .bind (resolveStmt_em sc pfx b s hsc hs.1.2) fun b' s1 ⟨hw1, he1⟩ =>
      .bind (resolveItems_em sc pfx rest s1 (hsc.mono he1.size) hs.2) fun rest' s2 ⟨hw2, he2⟩ =>
      .pure ⟨?_, he1.trans he2⟩
    exact band (band (wfEL_mono (he1.trans he2).size _ (resolveExprs_wf sc _ hsc ls ls' hs.1.1 hls))
      (wfS_mono he2.size _ hw1)) hw2
end

theorem resolveStmts_spec (sc : Scope) (pfx : String) :
    ∀ (ts : List Stmt) (s s' : ElabSt) (ts' : List Stmt), ScOk sc s.sigs.size → srcSL ts = true →
      resolveStmts sc pfx ts s = .ok (ts', s') → wfSL s'.sigs.size ts' = true ∧ SigExt s s' :=
  fun ts s s' ts' hsc hs h => resolveStmts_em sc pfx ts s hsc hs ts' s' h

theorem resolveItems_spec (sc : Scope) (pfx : String) :
    ∀ (its : List (List Expr × Stmt)) (s s' : ElabSt) (its' : List (List Expr × Stmt)), ScOk sc s.sigs.size →
      srcItems its = true → resolveItems sc pfx its s = .ok (its', s') →
      wfItems s'.sigs.size its' = true ∧ SigExt s s' :=
  fun its s s' its' hsc hs h => resolveItems_em sc pfx its s hsc hs its' s' h

end BMV.Vlog
