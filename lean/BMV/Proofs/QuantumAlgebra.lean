/-
  BMV.Proofs.QuantumAlgebra — what both the compile-equals-reference proof (BMV.Proofs.Quantum) and the
  unitarity proof (BMV.Proofs.QuantumUnitary) stand on.

  Basis indices: `locIdx` as a number (`locIdx_append`, `testBit_locIdx`), equality of two indices from
  their qubits (`eq_of_qbit_eq`), `agreeOut` as a statement about qubits, and `setb`, the index with a
  gate-local index written on the gate's qubits.
  Matrix algebra over a lawful carrier: finite sums, `EqOn`, associativity and units of `mmul`;
  a vector is a one-column matrix, so `mulVec` and `simulate` follow.
-/
import BMV.Quantum
import Mathlib.Tactic.Ring

namespace BMV.Quantum
open MulOps Ops

section gates
variable {R : Type}

/-- a gate of the supported shapes on declared qubits -/
def OkGate (n : Nat) (g : Gate R) : Prop :=
  (g.args.length = 1 ∨ g.args.length = 2) ∧ (∀ x ∈ g.args, x < n) ∧ g.args.Nodup

end gates

/-! ## basis indices -/

theorem locIdx_foldl (n i : Nat) (args : List Nat) (c : Nat) :
    args.foldl (fun acc a => 2 * acc + (qbit n a i).toNat) c
      = c * 2 ^ args.length + locIdx n args i := by
  unfold locIdx
  induction args generalizing c with
  | nil => simp
  | cons a as ih =>
    simp only [List.foldl_cons, List.length_cons]
    rw [ih (2 * c + _), ih (2 * 0 + _)]
    ring

theorem locIdx_append (n i : Nat) (a b : List Nat) :
    locIdx n (a ++ b) i = locIdx n a i * 2 ^ b.length + locIdx n b i := by
  have h := locIdx_foldl n i b (locIdx n a i)
  unfold locIdx at h ⊢
  rw [List.foldl_append]; exact h

theorem locIdx_single (n i u : Nat) : locIdx n [u] i = (qbit n u i).toNat := by
  simp [locIdx]

theorem locIdx_cons (n a : Nat) (as : List Nat) (x : Nat) :
    locIdx n (a :: as) x = (qbit n a x).toNat * 2 ^ as.length + locIdx n as x := by
  have := locIdx_append n x [a] as
  simpa [locIdx_single] using this

theorem locIdx_lt (n i : Nat) (args : List Nat) : locIdx n args i < 2 ^ args.length := by
  induction args with
  | nil => simp [locIdx]
  | cons a as ih =>
    have hb : (qbit n a i).toNat * 2 ^ as.length ≤ 1 * 2 ^ as.length :=
      Nat.mul_le_mul_right _ (Bool.toNat_le _)
    rw [locIdx_cons, List.length_cons, Nat.pow_succ]
    omega

theorem locIdx_append_div (n i : Nat) (a b : List Nat) :
    locIdx n (a ++ b) i / 2 ^ b.length = locIdx n a i := by
  rw [locIdx_append, Nat.add_comm, Nat.add_mul_div_right _ _ (Nat.two_pow_pos _),
    Nat.div_eq_of_lt (locIdx_lt n i b)]; simp

theorem locIdx_append_mod (n i : Nat) (a b : List Nat) :
    locIdx n (a ++ b) i % 2 ^ b.length = locIdx n b i := by
  rw [locIdx_append, Nat.add_comm, Nat.add_mul_mod_self_right, Nat.mod_eq_of_lt (locIdx_lt n i b)]

theorem eq_of_qbit_eq {n x y : Nat} (hx : x < 2 ^ n) (hy : y < 2 ^ n)
    (h : ∀ a, a < n → qbit n a x = qbit n a y) : x = y := by
  apply Nat.eq_of_testBit_eq
  intro p
  by_cases hp : p < n
  · have := h (n - 1 - p) (by omega)
    rwa [qbit, qbit, show n - 1 - (n - 1 - p) = p by omega] at this
  · have h2 : 2 ^ n ≤ 2 ^ p := Nat.pow_le_pow_right (by omega) (by omega)
    rw [Nat.testBit_lt_two_pow (Nat.lt_of_lt_of_le hx h2),
      Nat.testBit_lt_two_pow (Nat.lt_of_lt_of_le hy h2)]

theorem testBit_locIdx (n i : Nat) : ∀ (loc : List Nat) (k u : Nat), loc[k]? = some u →
    (locIdx n loc i).testBit (loc.length - 1 - k) = qbit n u i := by
  intro loc
  induction loc with
  | nil => intro k u h; cases h
  | cons a as ih =>
    intro k u h
    rw [locIdx_cons, Nat.mul_comm, Nat.testBit_two_pow_mul_add _ (locIdx_lt n i as)]
    cases k with
    | zero =>
      cases h
      rw [if_neg (by simp), List.length_cons, show as.length + 1 - 1 - 0 - as.length = 0 by omega]
      cases qbit n a i <;> rfl
    | succ k =>
      have hk : k < as.length := by
        have := (List.getElem?_eq_some_iff.mp h).1; simpa using this
      rw [List.length_cons, show as.length + 1 - 1 - (k + 1) = as.length - 1 - k by omega,
        if_pos (by omega)]
      exact ih k u h

theorem agreeOut_iff (n : Nat) (as : List Nat) (i j : Nat) :
    agreeOut n as i j = true ↔ ∀ a, a < n → a ∈ as ∨ qbit n a i = qbit n a j := by
  simp only [agreeOut, List.all_eq_true, List.mem_range, Bool.or_eq_true, List.contains_iff_mem,
    beq_iff_eq]

theorem agreeOut_eq (n : Nat) {as bs : List Nat} {i j i' j' : Nat}
    (h : ∀ a, a < n → ((a ∈ as ∨ qbit n a i = qbit n a j) ↔ (a ∈ bs ∨ qbit n a i' = qbit n a j'))) :
    agreeOut n as i j = agreeOut n bs i' j' := by
  rw [Bool.eq_iff_iff, agreeOut_iff, agreeOut_iff]
  exact forall₂_congr h

theorem locIdx_congr (n : Nat) (args : List Nat) (i k : Nat)
    (h : ∀ a ∈ args, qbit n a i = qbit n a k) : locIdx n args i = locIdx n args k := by
  unfold locIdx
  generalize (0 : Nat) = c
  induction args generalizing c with
  | nil => rfl
  | cons a as ih =>
    simp only [List.foldl_cons]
    rw [h a (by simp)]
    exact ih (fun b hb => h b (by simp [hb])) _

theorem locIdx_inj (n : Nat) (args : List Nat) (x y : Nat) (h : locIdx n args x = locIdx n args y) :
    ∀ a ∈ args, qbit n a x = qbit n a y := by
  intro a ha
  obtain ⟨k, hk⟩ := List.getElem?_of_mem ha
  rw [← testBit_locIdx n x args k a hk, h, testBit_locIdx n y args k a hk]

def putBit (i p : Nat) (v : Bool) : Nat := if i.testBit p = v then i else i ^^^ 2 ^ p

theorem testBit_putBit (i p q : Nat) (v : Bool) :
    (putBit i p v).testBit q = if q = p then v else i.testBit q := by
  unfold putBit
  by_cases hq : q = p
  · subst hq
    rw [if_pos rfl]
    split
    · assumption
    · rename_i h
      rw [Nat.testBit_xor, Nat.testBit_two_pow, decide_eq_true rfl, Bool.xor_true]
      revert h; cases i.testBit q <;> cases v <;> simp
  · rw [if_neg hq]
    split
    · rfl
    · rw [Nat.testBit_xor, Nat.testBit_two_pow, decide_eq_false (fun e => hq e.symm), Bool.xor_false]

theorem putBit_lt (n i p : Nat) (v : Bool) (hi : i < 2 ^ n) (hp : p < n) : putBit i p v < 2 ^ n := by
  apply Nat.lt_pow_two_of_testBit
  intro k hk
  rw [testBit_putBit, if_neg (by omega)]
  exact Nat.testBit_lt_two_pow (Nat.lt_of_lt_of_le hi (Nat.pow_le_pow_right (by omega) hk))

/-- the basis index `i` with the low `args.length` bits of `b` written on the qubits `args`
    (first argument = most significant) -/
def setb (n : Nat) : List Nat → Nat → Nat → Nat
  | [], _, i => i
  | a :: as, b, i => setb n as b (putBit i (n - 1 - a) (b.testBit as.length))

theorem qbit_setb_out (n : Nat) : ∀ (args : List Nat) (b i a' : Nat), a' < n → (∀ x ∈ args, x < n) →
    a' ∉ args → qbit n a' (setb n args b i) = qbit n a' i := by
  intro args
  induction args with
  | nil => intro b i a' _ _ _; rfl
  | cons a as ih =>
    intro b i a' ha' hlt hnm
    simp only [setb]
    rw [ih b _ a' ha' (fun x hx => hlt x (by simp [hx])) (fun h => hnm (by simp [h]))]
    simp only [qbit, testBit_putBit]
    have hne : a' ≠ a := fun e => hnm (by simp [e])
    have ha := hlt a (by simp)
    rw [if_neg (by omega)]

theorem setb_lt (n : Nat) : ∀ (args : List Nat) (b i : Nat), i < 2 ^ n → (∀ x ∈ args, x < n) →
    setb n args b i < 2 ^ n := by
  intro args
  induction args with
  | nil => intro b i hi _; exact hi
  | cons a as ih =>
    intro b i hi hlt
    simp only [setb]
    apply ih
    · exact putBit_lt n i _ _ hi (by have := hlt a (by simp); omega)
    · exact fun x hx => hlt x (by simp [hx])

theorem locIdx_setb (n : Nat) : ∀ (args : List Nat) (b i : Nat), (∀ x ∈ args, x < n) → args.Nodup →
    locIdx n args (setb n args b i) = b % 2 ^ args.length := by
  intro args
  induction args with
  | nil => intro b i _ _; simp [locIdx, Nat.mod_one]
  | cons a as ih =>
    intro b i hlt hnd
    have hlt' : ∀ x ∈ as, x < n := fun x hx => hlt x (by simp [hx])
    have ha := hlt a (by simp)
    rw [List.nodup_cons] at hnd
    rw [locIdx_cons]
    simp only [setb]
    rw [ih b _ hlt' hnd.2, qbit_setb_out n as b _ a ha hlt' hnd.1]
    simp only [qbit, testBit_putBit, if_true, List.length_cons]
    rw [Nat.mod_pow_succ, Nat.toNat_testBit]
    rw [Nat.mul_comm, Nat.add_comm]

theorem agree_setb (n : Nat) (A : List Nat) (b i : Nat) (hlt : ∀ x ∈ A, x < n) :
    agreeOut n A i (setb n A b i) = true := by
  rw [agreeOut_iff]
  intro a ha
  by_cases hm : a ∈ A
  · exact Or.inl hm
  · exact Or.inr (qbit_setb_out n A b i a ha hlt hm).symm

section algebra
variable {R : Type}

/-! ## matrix algebra -/

/-- two matrices with the same entries on the range -/
def EqOn (N : Nat) (a b : Mat R) : Prop := ∀ i j, i < N → j < N → a i j = b i j

theorem EqOn.refl (N : Nat) (a : Mat R) : EqOn N a a := fun _ _ _ _ => rfl

theorem EqOn.symm {N : Nat} {a b : Mat R} (h : EqOn N a b) : EqOn N b a :=
  fun i j hi hj => (h i j hi hj).symm

theorem EqOn.trans {N : Nat} {a b c : Mat R} (h1 : EqOn N a b) (h2 : EqOn N b c) : EqOn N a c :=
  fun i j hi hj => (h1 i j hi hj).trans (h2 i j hi hj)

variable [Ops R]

theorem sumN_congr {f g : Nat → R} (N : Nat) (h : ∀ k, k < N → f k = g k) : sumN f N = sumN g N := by
  induction N with
  | zero => rfl
  | succ N ih =>
    simp only [sumN]
    rw [ih (fun k hk => h k (Nat.lt_succ_of_lt hk)), h N (Nat.lt_succ_self N)]

theorem mmul_congr (N : Nat) {a a' b b' : Mat R} (ha : EqOn N a a') (hb : EqOn N b b') :
    EqOn N (mmul N a b) (mmul N a' b') := by
  intro i j hi hj
  simp only [mmul]
  exact sumN_congr N (fun k hk => by rw [ha i k hi hk, hb k j hk hj])

theorem mulVec_congr (N : Nat) {a a' : Mat R} (ha : EqOn N a a') {v v' : Nat → R}
    (hv : ∀ k, k < N → v k = v' k) : ∀ i, i < N → mulVec N a v i = mulVec N a' v' i :=
  fun i hi => mmul_congr N ha (fun k _ hk _ => hv k hk) i 0 hi (Nat.lt_of_le_of_lt (Nat.zero_le i) hi)

variable [Lawful R]

instance : Std.Associative (α := R) MulOps.mul := ⟨Lawful.mul_assoc⟩
instance : Std.Commutative (α := R) MulOps.mul := ⟨Lawful.mul_comm⟩
instance : Std.Associative (α := R) Ops.add := ⟨Lawful.add_assoc⟩
instance : Std.Commutative (α := R) Ops.add := ⟨Lawful.add_comm⟩

theorem mul_one' (a : R) : mul a one = a := by rw [Lawful.mul_comm]; exact Lawful.one_mul a
theorem mul_zero' (a : R) : mul a (zero : R) = zero := by rw [Lawful.mul_comm]; exact Lawful.zero_mul a
theorem add_zero' (a : R) : add a (zero : R) = a := by rw [Lawful.add_comm]; exact Lawful.zero_add a
theorem right_distrib' (a b c : R) : mul (add a b) c = add (mul a c) (mul b c) := by
  rw [Lawful.mul_comm, Lawful.left_distrib, Lawful.mul_comm c a, Lawful.mul_comm c b]


theorem sumN_zero (N : Nat) : sumN (fun _ => (zero : R)) N = zero := by
  induction N with
  | zero => rfl
  | succ N ih => simp only [sumN, ih, add_zero']

theorem sumN_single {f : Nat → R} (N k0 : Nat) (hk : k0 < N)
    (h : ∀ k, k < N → k ≠ k0 → f k = zero) : sumN f N = f k0 := by
  induction N with
  | zero => omega
  | succ N ih =>
    simp only [sumN]
    by_cases hN : k0 = N
    · subst hN
      have : sumN f k0 = zero := by
        rw [sumN_congr k0 (g := fun _ => zero) (fun k hk' => h k (Nat.lt_succ_of_lt hk') (by omega))]
        exact sumN_zero k0
      rw [this, Lawful.zero_add]
    · rw [ih (by omega) (fun k hk' hne => h k (Nat.lt_succ_of_lt hk') hne),
        h N (Nat.lt_succ_self N) (fun e => hN e.symm), add_zero']

theorem sumN_add (f g : Nat → R) (N : Nat) :
    sumN (fun k => add (f k) (g k)) N = add (sumN f N) (sumN g N) := by
  induction N with
  | zero => simp only [sumN, Lawful.zero_add]
  | succ N ih => simp only [sumN, ih]; ac_rfl

theorem sumN_mul_left (a : R) (f : Nat → R) (N : Nat) :
    mul a (sumN f N) = sumN (fun k => mul a (f k)) N := by
  induction N with
  | zero => simp only [sumN, mul_zero']
  | succ N ih => simp only [sumN, Lawful.left_distrib, ih]

theorem sumN_mul_right (a : R) (f : Nat → R) (N : Nat) :
    mul (sumN f N) a = sumN (fun k => mul (f k) a) N := by
  induction N with
  | zero => simp only [sumN, Lawful.zero_mul]
  | succ N ih => simp only [sumN, right_distrib', ih]

theorem sumN_comm (f : Nat → Nat → R) (N M : Nat) :
    sumN (fun k => sumN (fun l => f k l) M) N = sumN (fun l => sumN (fun k => f k l) N) M := by
  induction N with
  | zero => simp only [sumN]; exact (sumN_zero M).symm
  | succ N ih => simp only [sumN, ih, sumN_add]

theorem mmul_assoc (N : Nat) (a b c : Mat R) : mmul N (mmul N a b) c = mmul N a (mmul N b c) := by
  funext i j
  simp only [mmul]
  -- Σ_k (Σ_l a i l * b l k) * c k j = Σ_l a i l * (Σ_k b l k * c k j)
  have h1 : ∀ k, mul (sumN (fun l => mul (a i l) (b l k)) N) (c k j)
      = sumN (fun l => mul (a i l) (mul (b l k) (c k j))) N := by
    intro k
    rw [sumN_mul_right]
    exact sumN_congr N (fun l _ => Lawful.mul_assoc _ _ _)
  have h2 : ∀ l, mul (a i l) (sumN (fun k => mul (b l k) (c k j)) N)
      = sumN (fun k => mul (a i l) (mul (b l k) (c k j))) N := fun l => sumN_mul_left _ _ _
  rw [sumN_congr N (fun k _ => h1 k), sumN_congr N (fun l _ => h2 l)]
  exact sumN_comm (fun k l => mul (a i l) (mul (b l k) (c k j))) N N

/-! Units, entry by entry (only the summed index needs its bound: used for vectors, where the other
    index is a column number) and as `EqOn` for the calculus of matrices on the range. -/

theorem mmul_idMat (N : Nat) (a : Mat R) (i j : Nat) (hj : j < N) : mmul N a idMat i j = a i j := by
  simp only [mmul, idMat]
  rw [sumN_single N j hj (fun k _ hne => by rw [if_neg hne, mul_zero'])]
  rw [if_pos rfl, mul_one']

theorem idMat_mmul (N : Nat) (a : Mat R) (i j : Nat) (hi : i < N) : mmul N idMat a i j = a i j := by
  simp only [mmul, idMat]
  rw [sumN_single N i hi (fun k _ hne => by rw [if_neg (fun e => hne e.symm), Lawful.zero_mul])]
  rw [if_pos rfl, Lawful.one_mul]

theorem mmul_id_right (N : Nat) (a : Mat R) : EqOn N (mmul N a idMat) a :=
  fun i j _ hj => mmul_idMat N a i j hj

theorem mmul_id_left (N : Nat) (a : Mat R) : EqOn N (mmul N idMat a) a :=
  fun i j hi _ => idMat_mmul N a i j hi

/-! A vector is a one-column matrix: `mulVec N a v i` unfolds to `mmul N a (fun k _ => v k) i 0`,
    so the facts about `mulVec` are those about `mmul` read at column 0. -/

theorem mulVec_mmul (N : Nat) (a b : Mat R) (v : Nat → R) :
    mulVec N (mmul N a b) v = mulVec N a (mulVec N b v) :=
  funext fun i => congrFun (congrFun (mmul_assoc N a b (fun k _ => v k)) i) 0

/-- `RunSoftwareSimulation` = multiplication by the product of the matrices -/
theorem simulate_eq (N : Nat) (ms : List (Mat R)) (v : Nat → R) :
    ∀ i, i < N → simulate N ms v i = mulVec N (prodMats N ms) v i := by
  unfold simulate prodMats
  have gen : ∀ (ms : List (Mat R)) (P : Mat R) (w : Nat → R),
      (∀ i, i < N → w i = mulVec N P v i) →
      ∀ i, i < N → ms.foldl (fun s m => mulVec N m s) w i
        = mulVec N (ms.foldl (fun P m => mmul N m P) P) v i := by
    intro ms
    induction ms with
    | nil => intro P w h; exact h
    | cons m ms ih =>
      intro P w h
      apply ih
      intro i hi
      rw [mulVec_mmul]
      exact mulVec_congr N (fun _ _ _ _ => rfl) h i hi
  exact gen ms idMat v fun i hi => (idMat_mmul N (fun k _ => v k) i 0 hi).symm

theorem mulVec_basis (N : Nat) (a : Mat R) (k : Nat) (hk : k < N) (i : Nat) :
    mulVec N a (basis k) i = a i k :=
  mmul_idMat N a i k hk

end algebra


end BMV.Quantum
