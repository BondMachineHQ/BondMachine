/-
  Helper lemmas for C02 about the simulator world of BMV.Bm: what the movement loops of
  `VM.Step` (`Bm.preMove` / `Bm.postMove`) do, seen from one processor port — `isaStep` as a
  synchronous product of the processors over the bonds (`isaStep_spec`) — and the projection of one
  bond of a machine step onto C04's handshake model `Hs.Isa.step`.
-/
import BMV.Proofs.Bond
import BMV.Proofs.Bm
import BMV.Proofs.Hs
namespace BMV.Bm
open BMV BMV.Bits BMV.Topology

theorem getElem?_modifyAt {α} (l : List α) (r p : Nat) (f : α → α) :
    (modifyAt l r f)[p]? = if p = r then (l[p]?).map f else l[p]? := by
  unfold modifyAt
  cases h : l[r]? with
  | none =>
    by_cases hp : p = r
    · subst hp; simp [h]
    · simp [hp]
  | some x =>
    by_cases hp : p = r
    · subst hp
      have hlt : p < l.length := (List.getElem?_eq_some_iff.mp h).1
      simp [List.getElem?_set_self hlt, h]
    · simp only [hp, if_false]
      rw [List.getElem?_set_ne (fun e => hp e.symm)]

theorem getD_map_zipIdx {α β} (l : List α) (f : α × Nat → β) (i : Nat) (d : β) (x : α) (h : l[i]? = some x) :
    (l.zipIdx.map f).getD i d = f (x, i) := by
  simp [List.getD_eq_getElem?_getD, List.getElem?_map, List.getElem?_zipIdx, h]

theorem length_modifyAt {α} (l : List α) (r : Nat) (f : α → α) : (modifyAt l r f).length = l.length := by
  unfold modifyAt
  cases l[r]? <;> simp

/-! ### the loops of `VM.Step` that write into the processors

Two of the twelve loops have this shape: every endpoint of kind `K` in a list writes something into
its processor.  What such a loop does is said once, from the point of view of one processor
(`portLoop_get`) and of one port (`writesOf_establish`: the endpoint lists have no duplicates, so
the cell of a port is written once). -/

def portLoop (K : Nat) (zs : List (Topology.Bond × Nat)) (w : Topology.Bond → Nat → VmState → VmState)
    (ps : List VmState) : List VmState :=
  zs.foldl (fun ps (b, i) => if b.kind = K then modifyAt ps b.res (w b i) else ps) ps

def writesOf (K : Nat) (zs : List (Topology.Bond × Nat)) (p : Nat) : List (Topology.Bond × Nat) :=
  zs.filter fun x => decide (x.1.kind = K) && x.1.res == p

theorem length_portLoop (K : Nat) (zs : List (Topology.Bond × Nat)) (w : Topology.Bond → Nat → VmState → VmState)
    (ps : List VmState) : (portLoop K zs w ps).length = ps.length :=
  foldl_preserve (Q := fun (qs : List VmState) => qs.length = ps.length) zs
    (fun x _ qs h => by dsimp only; split; rw [length_modifyAt, h]; exact h) rfl

theorem portLoop_get (K : Nat) (zs : List (Topology.Bond × Nat)) (w : Topology.Bond → Nat → VmState → VmState)
    (ps : List VmState) (p : Nat) :
    (portLoop K zs w ps)[p]? = (ps[p]?).map fun v => (writesOf K zs p).foldl (fun v x => w x.1 x.2 v) v := by
  unfold portLoop writesOf
  induction zs generalizing ps with
  | nil => simp
  | cons x zs ih =>
    obtain ⟨b, i⟩ := x
    rw [List.foldl_cons, ih, List.filter_cons]
    by_cases hc : b.kind = K
    · by_cases hp : b.res = p
      · subst hp
        simp only [hc, if_true, getElem?_modifyAt, decide_true, beq_self_eq_true, Bool.and_self, List.foldl_cons,
          Option.map_map]
        rfl
      · have : (b.res == p) = false := beq_false_of_ne hp
        simp only [hc, if_true, getElem?_modifyAt, if_neg (Ne.symm hp), this, Bool.and_false, Bool.false_eq_true,
          if_false]
    · simp only [hc, if_false, decide_false, Bool.false_and, Bool.false_eq_true]

theorem writesOf_establish {K p k i : Nat} {l : List Topology.Bond} (hn : l.Nodup) (hi : l[i]? = some ⟨K, p, k⟩)
    {w : Topology.Bond → Nat → VmState → VmState} {P : VmState → Prop} (hest : ∀ u, P (w ⟨K, p, k⟩ i u))
    (hkeep : ∀ (b : Topology.Bond) i' u, b.ext ≠ k → P u → P (w b i' u)) (v : VmState) :
    P ((writesOf K l.zipIdx p).foldl (fun v x => w x.1 x.2 v) v) := by
  refine foldl_establish (x := (⟨K, p, k⟩, i)) hest _ ?_ (fun y hy u hu => ?_) v
  · exact List.mem_filter.mpr ⟨List.mem_zipIdx_iff_getElem?.mpr hi, by simp⟩
  · obtain ⟨⟨K', p', k'⟩, i'⟩ := y
    obtain ⟨hm, hc⟩ := List.mem_filter.mp hy
    obtain ⟨hK, hp⟩ := Bool.and_eq_true_iff.mp hc
    cases of_decide_eq_true hK
    cases eq_of_beq hp
    by_cases hk : k' = k
    · subst hk
      cases idx_unique hn (List.mem_zipIdx_iff_getElem?.mp hm) hi
      exact hest u
    · exact hkeep _ _ u hk hu

/-- `Processors[r].Inputs[ext] = x; InputsValid[ext] = vld` -/
def wIn (ext x : Nat) (vld : Bool) (v : VmState) : VmState :=
  { v with inputs := v.inputs.set ext x, inValid := v.inValid.set ext vld }

/-- `Processors[r].OutputsRecv[ext] = rc` -/
def wRecv (ext : Nat) (rc : Bool) (v : VmState) : VmState :=
  { v with outRecv := v.outRecv.set ext rc }

/-- the input-side view of a processor: everything but `inputs` / `inValid` is untouched -/
structure SameButIn (v v' : VmState) : Prop where
  pc : v'.pc = v.pc
  regs : v'.regs = v.regs
  outputs : v'.outputs = v.outputs
  outValid : v'.outValid = v.outValid
  inRecv : v'.inRecv = v.inRecv
  outRecv : v'.outRecv = v.outRecv
  deferred : v'.deferred = v.deferred
  lenI : v'.inputs.length = v.inputs.length
  lenV : v'.inValid.length = v.inValid.length

theorem wIn_frame {v u : VmState} (ext x : Nat) (vld : Bool) (h : SameButIn v u) : SameButIn v (wIn ext x vld u) :=
  ⟨h.pc, h.regs, h.outputs, h.outValid, h.inRecv, h.outRecv, h.deferred,
    (List.length_set ..).trans h.lenI, (List.length_set ..).trans h.lenV⟩

/-- the recv-side view: everything but `outRecv` is untouched -/
structure SameButRecv (v v' : VmState) : Prop where
  pc : v'.pc = v.pc
  regs : v'.regs = v.regs
  inputs : v'.inputs = v.inputs
  inValid : v'.inValid = v.inValid
  outputs : v'.outputs = v.outputs
  outValid : v'.outValid = v.outValid
  inRecv : v'.inRecv = v.inRecv
  deferred : v'.deferred = v.deferred
  lenR : v'.outRecv.length = v.outRecv.length

theorem wRecv_frame {v u : VmState} (ext : Nat) (rc : Bool) (h : SameButRecv v u) : SameButRecv v (wRecv ext rc u) :=
  ⟨h.pc, h.regs, h.inputs, h.inValid, h.outputs, h.outValid, h.inRecv, h.deferred,
    (List.length_set ..).trans h.lenR⟩

/-- the state after the first two pre-compute loops (external inputs → internal outputs → internal inputs) -/
def preIi (t : Topo) (s : BmState) : BmState := mvLinks t (mvExtIn t s)

/-- `InternalInputsRecv` after the loop that copies the external outputs' recv -/
def preRecvArr (t : Topo) (s : BmState) : List Bool :=
  t.iin.zipIdx.map fun (b, i) => if b.kind = 1 then s.outRecv.getD b.res false else s.iiRecv.getD i false

/-- everything of a processor that the movement loops do not touch -/
structure SameButPorts (v v' : VmState) : Prop where
  pc : v'.pc = v.pc
  regs : v'.regs = v.regs
  outputs : v'.outputs = v.outputs
  outValid : v'.outValid = v.outValid
  inRecv : v'.inRecv = v.inRecv
  deferred : v'.deferred = v.deferred
  lenI : v'.inputs.length = v.inputs.length
  lenV : v'.inValid.length = v.inValid.length
  lenR : v'.outRecv.length = v.outRecv.length

theorem mvToProcs_procs (t : Topo) (s : BmState) :
    (mvToProcs t s).procs =
      portLoop 2 t.iin.zipIdx (fun b i => wIn b.ext (s.iiRegs.getD i 0) (s.iiValid.getD i false)) s.procs := rfl

theorem mvRecvToProcs_procs (t : Topo) (s : BmState) :
    (mvRecvToProcs t s).procs = portLoop 3 t.iout.zipIdx (fun b i => wRecv b.ext (s.ioRecv.getD i false)) s.procs := rfl

theorem preMove_procs_length (t : Topo) (s : BmState) : (preMove t s).procs.length = s.procs.length := by
  unfold preMove
  rw [mvRecvToProcs_procs, length_portLoop]
  exact (congrArg List.length (mvToProcs_procs t _)).trans (length_portLoop ..)

theorem writes_wIn (K : Nat) (l : List Topology.Bond) (p : Nat) (val : Nat → Nat) (vld : Nat → Bool) (v : VmState) :
    SameButIn v ((writesOf K l.zipIdx p).foldl (fun v x => wIn x.1.ext (val x.2) (vld x.2) v) v) ∧
    ∀ k i, l.Nodup → l[i]? = some ⟨K, p, k⟩ → k < v.inputs.length → k < v.inValid.length →
      ((writesOf K l.zipIdx p).foldl (fun v x => wIn x.1.ext (val x.2) (vld x.2) v) v).inputs[k]? = some (val i) ∧
      ((writesOf K l.zipIdx p).foldl (fun v x => wIn x.1.ext (val x.2) (vld x.2) v) v).inValid[k]? = some (vld i) := by
  have f : SameButIn v ((writesOf K l.zipIdx p).foldl (fun v x => wIn x.1.ext (val x.2) (vld x.2) v) v) :=
    foldl_preserve (Q := SameButIn v) _ (fun _ _ _ => wIn_frame _ _ _) ⟨rfl, rfl, rfl, rfl, rfl, rfl, rfl, rfl, rfl⟩
  refine ⟨f, fun k i hn hi hk hk' => ?_⟩
  refine writesOf_establish (w := fun b i => wIn b.ext (val i) (vld i)) hn hi
    (P := fun u => k < u.inputs.length → k < u.inValid.length →
      u.inputs[k]? = some (val i) ∧ u.inValid[k]? = some (vld i))
    (fun u h1 h2 => ⟨List.getElem?_set_self (Nat.lt_of_lt_of_eq h1 (List.length_set ..)),
      List.getElem?_set_self (Nat.lt_of_lt_of_eq h2 (List.length_set ..))⟩)
    (fun b i' u hb hu h1 h2 => ?_) v (by rw [f.lenI]; exact hk) (by rw [f.lenV]; exact hk')
  have hu := hu (Nat.lt_of_lt_of_eq h1 (List.length_set ..)) (Nat.lt_of_lt_of_eq h2 (List.length_set ..))
  exact ⟨(List.getElem?_set_ne hb).trans hu.1, (List.getElem?_set_ne hb).trans hu.2⟩

theorem writes_wRecv (K : Nat) (l : List Topology.Bond) (p : Nat) (rc : Nat → Bool) (v : VmState) :
    SameButRecv v ((writesOf K l.zipIdx p).foldl (fun v x => wRecv x.1.ext (rc x.2) v) v) ∧
    ∀ o j, l.Nodup → l[j]? = some ⟨K, p, o⟩ → o < v.outRecv.length →
      ((writesOf K l.zipIdx p).foldl (fun v x => wRecv x.1.ext (rc x.2) v) v).outRecv[o]? = some (rc j) := by
  have f : SameButRecv v ((writesOf K l.zipIdx p).foldl (fun v x => wRecv x.1.ext (rc x.2) v) v) :=
    foldl_preserve (Q := SameButRecv v) _ (fun _ _ _ => wRecv_frame _ _) ⟨rfl, rfl, rfl, rfl, rfl, rfl, rfl, rfl, rfl⟩
  refine ⟨f, fun o j hn hj ho => ?_⟩
  refine writesOf_establish (w := fun b i => wRecv b.ext (rc i)) hn hj
    (P := fun u => o < u.outRecv.length → u.outRecv[o]? = some (rc j))
    (fun u h1 => List.getElem?_set_self (Nat.lt_of_lt_of_eq h1 (List.length_set ..)))
    (fun b i' u hb hu h1 => ?_) v (by rw [f.lenR]; exact ho)
  exact (List.getElem?_set_ne hb).trans (hu (Nat.lt_of_lt_of_eq h1 (List.length_set ..)))

theorem preMove_proc {t : Topo} (h : WF t) (s : BmState) {p : Nat} {v : VmState} (hv : s.procs[p]? = some v) :
    ∃ v', (preMove t s).procs[p]? = some v' ∧ SameButPorts v v' ∧
      (∀ k i, t.iin[i]? = some ⟨2, p, k⟩ → k < v.inputs.length → k < v.inValid.length →
        v'.inputs[k]? = some ((preIi t s).iiRegs.getD i 0) ∧ v'.inValid[k]? = some ((preIi t s).iiValid.getD i false)) ∧
      (∀ o j, t.iout[j]? = some ⟨3, p, o⟩ → o < v.outRecv.length →
        v'.outRecv[o]? = some (recvOf t.links (preRecvArr t s) j)) := by
  let s5 := mvRecvAnd t (mvExtRecv t (mvToProcs t (preIi t s)))
  obtain ⟨f3, hin⟩ := writes_wIn 2 t.iin p (fun i => (preIi t s).iiRegs.getD i 0) (fun i => (preIi t s).iiValid.getD i false) v
  generalize hv3 : (writesOf 2 t.iin.zipIdx p).foldl _ v = v3 at f3 hin
  obtain ⟨f6, hout⟩ := writes_wRecv 3 t.iout p (fun i => s5.ioRecv.getD i false) v3
  generalize hv6 : (writesOf 3 t.iout.zipIdx p).foldl _ v3 = v6 at f6 hout
  have h6 : (preMove t s).procs[p]? = some v6 := by
    show (mvRecvToProcs t s5).procs[p]? = _
    rw [mvRecvToProcs_procs, portLoop_get]
    show Option.map _ ((mvToProcs t (preIi t s)).procs[p]?) = _
    rw [mvToProcs_procs, portLoop_get]
    show Option.map _ (Option.map _ (s.procs[p]?)) = _
    rw [hv, ← hv6, ← hv3]
    rfl
  refine ⟨v6, h6, ?_, fun k i hi hk hk' => ?_, fun o j hj ho => ?_⟩
  · exact ⟨f6.pc.trans f3.pc, f6.regs.trans f3.regs, f6.outputs.trans f3.outputs, f6.outValid.trans f3.outValid,
      f6.inRecv.trans f3.inRecv, f6.deferred.trans f3.deferred, by rw [f6.inputs]; exact f3.lenI,
      by rw [f6.inValid]; exact f3.lenV, by rw [f6.lenR, f3.outRecv]⟩
  · rw [f6.inputs, f6.inValid]
    exact hin k i h.iin_nodup hi hk hk'
  · rw [hout o j h.iout_nodup hj (by rw [f3.outRecv]; exact ho)]
    show some (((List.range t.iout.length).map (recvOf t.links (mvExtRecv t (mvToProcs t (preIi t s))).iiRecv)).getD j false) = _
    rw [List.getD_eq_getElem?_getD, List.getElem?_map, List.getElem?_range (List.getElem?_eq_some_iff.mp hj).1]
    rfl

theorem mapM_option {α β} (f : α → Option β) (l : List α) (l' : List β) (h : l.mapM f = some l') :
    l'.length = l.length ∧ ∀ (i : Nat) x, l[i]? = some x → ∃ y, f x = some y ∧ l'[i]? = some y := by
  induction l generalizing l' with
  | nil =>
    simp only [List.mapM_nil] at h
    cases h
    exact ⟨rfl, by simp⟩
  | cons a l ih =>
    simp only [List.mapM_cons] at h
    cases hfa : f a with
    | none => simp [hfa] at h
    | some b =>
      cases hl : l.mapM f with
      | none => simp [hfa, hl] at h
      | some bs =>
        simp [hfa, hl] at h
        subst h
        obtain ⟨hlen, hget⟩ := ih bs hl
        refine ⟨by simp [hlen], ?_⟩
        intro i x hx
        cases i with
        | zero => simp at hx; subst hx; exact ⟨b, hfa, by simp⟩
        | succ i => simp at hx; simpa using hget i x hx

theorem compute_spec {m : Machine} {s s' : BmState} (h : compute m s = some s') :
    s' = { s with procs := s'.procs } ∧ s'.procs.length = s.procs.length ∧
    ∀ (p : Nat) v, s.procs[p]? = some v → ∃ a prog v', m.archs[p]? = some a ∧ m.progs[p]? = some prog ∧
      Isa.step a prog v = some v' ∧ s'.procs[p]? = some v' := by
  unfold compute at h
  simp only [bind, Option.bind, pure] at h
  split at h
  · cases h
  · rename_i ps hps
    cases h
    obtain ⟨hlen, hget⟩ := mapM_option _ _ _ hps
    refine ⟨rfl, by simpa using hlen, ?_⟩
    intro p v hv
    have hz : s.procs.zipIdx[p]? = some (v, p) := by
      rw [List.getElem?_zipIdx]; simp [hv]
    obtain ⟨y, hy, hy'⟩ := hget p (v, p) hz
    simp only at hy
    split at hy
    · rename_i a prog ha hp
      exact ⟨a, prog, y, ha, hp, hy, hy'⟩
    · cases hy

theorem mvExtOut_frame (t : Topo) (s : BmState) :
    (mvExtOut t s).procs = s.procs ∧ (mvExtOut t s).ioRegs = s.ioRegs ∧ (mvExtOut t s).ioValid = s.ioValid ∧
    (mvExtOut t s).iiRecv = s.iiRecv ∧ (mvExtOut t s).iiRegs = s.iiRegs ∧ (mvExtOut t s).iiValid = s.iiValid :=
  foldl_preserve (Q := fun (u : BmState) => u.procs = s.procs ∧ u.ioRegs = s.ioRegs ∧ u.ioValid = s.ioValid ∧
      u.iiRecv = s.iiRecv ∧ u.iiRegs = s.iiRegs ∧ u.iiValid = s.iiValid) _
    (fun _ _ _ h => by dsimp only; split <;> exact h) ⟨rfl, rfl, rfl, rfl, rfl, rfl⟩

theorem mvExtInRecv_frame (t : Topo) (s : BmState) :
    (mvExtInRecv t s).procs = s.procs ∧ (mvExtInRecv t s).ioRegs = s.ioRegs ∧ (mvExtInRecv t s).ioValid = s.ioValid ∧
    (mvExtInRecv t s).iiRecv = s.iiRecv :=
  foldl_preserve (Q := fun (u : BmState) => u.procs = s.procs ∧ u.ioRegs = s.ioRegs ∧ u.ioValid = s.ioValid ∧
      u.iiRecv = s.iiRecv) _
    (fun _ _ _ h => by dsimp only; split <;> exact h) ⟨rfl, rfl, rfl, rfl⟩

/-- the internal arrays agree with the processors' port registers (true after every `VM.Step`) -/
structure Coherent (t : Topo) (s : BmState) : Prop where
  io : ∀ j q o, t.iout[j]? = some ⟨3, q, o⟩ →
    s.ioRegs.getD j 0 = (s.procs.getD q {}).outputs.getD o 0 ∧
    s.ioValid.getD j false = (s.procs.getD q {}).outValid.getD o false
  ii : ∀ i c k, t.iin[i]? = some ⟨2, c, k⟩ → s.iiRecv.getD i false = (s.procs.getD c {}).inRecv.getD k false

theorem postMove_procs (t : Topo) (s : BmState) : (postMove t s).procs = s.procs := by
  unfold postMove
  rw [(mvExtInRecv_frame t _).1]
  show (mvExtOut t (mvLinks t (mvFromProcs t s))).procs = _
  rw [(mvExtOut_frame t _).1]
  rfl

theorem postMove_coherent (t : Topo) (s : BmState) : Coherent t (postMove t s) := by
  have hp := postMove_procs t s
  constructor
  · intro j q o hj
    rw [hp]
    unfold postMove
    rw [(mvExtInRecv_frame t _).2.1, (mvExtInRecv_frame t _).2.2.1]
    show (mvExtOut t (mvLinks t (mvFromProcs t s))).ioRegs.getD j 0 = _ ∧ (mvExtOut t (mvLinks t (mvFromProcs t s))).ioValid.getD j false = _
    rw [(mvExtOut_frame t _).2.1, (mvExtOut_frame t _).2.2.1]
    exact ⟨getD_map_zipIdx _ _ j 0 _ hj, getD_map_zipIdx _ _ j false _ hj⟩
  · intro i c k hi
    rw [hp]
    unfold postMove
    rw [(mvExtInRecv_frame t _).2.2.2]
    show (mvProcRecv t (mvExtOut t (mvLinks t (mvFromProcs t s)))).iiRecv.getD i false = _
    refine (getD_map_zipIdx _ _ i false _ hi).trans ?_
    show ((mvExtOut t (mvLinks t (mvFromProcs t s))).procs.getD c {}).inRecv.getD k false = _
    rw [(mvExtOut_frame t _).1]
    rfl

theorem setEnv_coherent {t : Topo} {s : BmState} (h : Coherent t s) (e : EnvIn) : Coherent t (setEnv s e) :=
  ⟨h.io, h.ii⟩

structure SameLens (v v' : VmState) : Prop where
  inputs : v'.inputs.length = v.inputs.length
  inValid : v'.inValid.length = v.inValid.length
  inRecv : v'.inRecv.length = v.inRecv.length
  outputs : v'.outputs.length = v.outputs.length
  outValid : v'.outValid.length = v.outValid.length
  outRecv : v'.outRecv.length = v.outRecv.length

local macro "branch" h:ident : tactic =>
  `(tactic| ((repeat' (split at $h:ident)) <;> (cases $h:ident <;> (constructor <;> simp))))

local macro "framebranch" h:ident : tactic =>
  `(tactic| ((repeat' (split at $h:ident)) <;> (cases $h:ident <;> (first | (refine ⟨fun _ => rfl, fun _ => ⟨rfl, rfl⟩⟩) | skip))))

/-- an instruction other than the two handshake ones leaves the port arrays alone (`r2o` writes an
    output register in place) -/
theorem exec_other {a : Arch} {n : Nat} {op : String} {body : Bits} {s s' : VmState}
    (h : Isa.exec a n op body s = some s') (hi : op ≠ "i2rw") (hr : op ≠ "r2owa") :
    s'.inputs = s.inputs ∧ s'.inValid = s.inValid ∧ s'.inRecv = s.inRecv ∧ s'.outValid = s.outValid ∧
    s'.outRecv = s.outRecv ∧ s'.deferred = s.deferred ∧ s'.outputs.length = s.outputs.length := by
  unfold Isa.exec at h
  simp only at h
  -- the cases follow the `if` chain of `Isa.exec`: nop, rset, unary, binary, pipelined, j, jz, i2r,
  -- r2o; what is left are the two excluded opcodes and the error arm
  by_cases h1 : op = "nop"
  · rw [if_pos h1] at h; branch h
  rw [if_neg h1] at h
  by_cases h2 : op = "rset"
  · rw [if_pos h2] at h; branch h
  rw [if_neg h2] at h
  by_cases h3 : op ∈ ["inc", "dec", "clr"]
  · rw [if_pos h3] at h; branch h
  rw [if_neg h3] at h
  by_cases h4 : op ∈ ["add", "mult", "div", "cpy", "and", "or", "xor", "nand", "nor", "xnor", "not", "mod"]
  · rw [if_pos h4] at h; branch h
  rw [if_neg h4] at h
  by_cases h4b : op ∈ Isa.pipeOps
  · rw [if_pos h4b] at h; branch h
  rw [if_neg h4b] at h
  by_cases h5 : op = "j"
  · rw [if_pos h5] at h; branch h
  rw [if_neg h5] at h
  by_cases h6 : op = "jz"
  · rw [if_pos h6] at h; branch h
  rw [if_neg h6] at h
  by_cases h7 : op = "i2r"
  · rw [if_pos h7] at h; branch h
  rw [if_neg h7] at h
  by_cases h8 : op = "r2o"
  · rw [if_pos h8] at h; branch h
  rw [if_neg h8, if_neg hi, if_neg hr] at h
  cases h

theorem exec_i2rw_writes {a : Arch} {n : Nat} {body : Bits} {s s' : VmState}
    (h : Isa.exec a n "i2rw" body s = some s') :
    ∃ pc regs ir df, s' = { s with pc := pc, regs := regs, inRecv := ir, deferred := df } ∧
      ir.length = s.inRecv.length := by
  rw [exec_i2rw_eq] at h
  (repeat' (split at h)) <;> (cases h <;> exact ⟨_, _, _, _, rfl, by simp⟩)

theorem exec_r2owa_writes {a : Arch} {n : Nat} {body : Bits} {s s' : VmState}
    (h : Isa.exec a n "r2owa" body s = some s') :
    ∃ pc outs ov, s' = { s with pc := pc, outputs := outs, outValid := ov } ∧
      outs.length = s.outputs.length ∧ ov.length = s.outValid.length := by
  rw [exec_r2owa_eq] at h
  (repeat' (split at h)) <;> (cases h <;> exact ⟨_, _, _, rfl, by simp, by simp⟩)

theorem exec_lens {a : Arch} {n : Nat} {op : String} {body : Bits} {s s' : VmState}
    (h : Isa.exec a n op body s = some s') : SameLens s s' := by
  by_cases hi : op = "i2rw"
  · subst hi
    obtain ⟨_, _, _, _, rfl, hl⟩ := exec_i2rw_writes h
    exact ⟨rfl, rfl, hl, rfl, rfl, rfl⟩
  by_cases hr : op = "r2owa"
  · subst hr
    obtain ⟨_, _, _, rfl, hl, hl'⟩ := exec_r2owa_writes h
    exact ⟨rfl, rfl, rfl, hl, hl', rfl⟩
  obtain ⟨e1, e2, e3, e4, e5, _, e7⟩ := exec_other h hi hr
  exact ⟨by rw [e1], by rw [e2], by rw [e3], e7, by rw [e4], by rw [e5]⟩

theorem exec_frame {a : Arch} {n : Nat} {op : String} {body : Bits} {s s' : VmState}
    (h : Isa.exec a n op body s = some s') :
    (op ≠ "r2owa" → s'.outValid = s.outValid) ∧ (op ≠ "i2rw" → s'.inRecv = s.inRecv ∧ s'.deferred = s.deferred) := by
  by_cases hi : op = "i2rw"
  · subst hi
    obtain ⟨_, _, _, _, rfl, _⟩ := exec_i2rw_writes h
    exact ⟨fun _ => rfl, fun hne => absurd rfl hne⟩
  by_cases hr : op = "r2owa"
  · subst hr
    obtain ⟨_, _, _, rfl, _⟩ := exec_r2owa_writes h
    exact ⟨fun hne => absurd rfl hne, fun _ => ⟨rfl, rfl⟩⟩
  obtain ⟨_, _, e3, e4, _, e6, _⟩ := exec_other h hi hr
  exact ⟨fun _ => e4, fun _ => ⟨e3, e6⟩⟩

theorem foldl_set_length (l : List Nat) (r : List Bool) : (l.foldl (fun l i => l.set i false) r).length = r.length :=
  foldl_preserve (Q := fun (r' : List Bool) => r'.length = r.length) l (fun _ _ _ h => (List.length_set ..).trans h) rfl

theorem runDeferred_lens (s : VmState) : SameLens s (Isa.runDeferred s) :=
  ⟨rfl, rfl, foldl_set_length _ _, rfl, rfl, rfl⟩

theorem step_lens {a : Arch} {prog : List Bits} {s s' : VmState} (h : Isa.step a prog s = some s') : SameLens s s' := by
  unfold Isa.step at h
  split at h
  · cases h
  · have hd := runDeferred_lens s
    simp only at h
    split at h
    · cases h; exact hd
    · split at h
      · cases h
      · have := exec_lens h
        exact ⟨this.inputs.trans hd.inputs, this.inValid.trans hd.inValid, this.inRecv.trans hd.inRecv,
          this.outputs.trans hd.outputs, this.outValid.trans hd.outValid, this.outRecv.trans hd.outRecv⟩

/-- the port arrays of a processor have the sizes of its architecture -/
structure PortSized (a : Arch) (v : VmState) : Prop where
  inputs : v.inputs.length = a.n
  inValid : v.inValid.length = a.n
  inRecv : v.inRecv.length = a.n
  outputs : v.outputs.length = a.m
  outValid : v.outValid.length = a.m
  outRecv : v.outRecv.length = a.m

def Sized (m : Machine) (s : BmState) : Prop :=
  ∀ (p : Nat) v a, s.procs[p]? = some v → m.archs[p]? = some a → PortSized a v

/-- `VM.Step` is a synchronous product: every processor takes one `Isa.step` on its own state in
    which only the three port arrays were rewritten — input `k` shows the data/valid registers its
    bond's driver had at the end of the previous tick, output `o` the conjunction of its consumers'
    recv — and the internal arrays agree with the processors again afterwards -/
theorem isaStep_spec {m : Machine} (h : WF m.topo) {s : BmState} {e : EnvIn} {s' : BmState}
    (hs : isaStep m (setEnv s e) = some s') :
    Coherent m.topo s' ∧ s'.procs.length = s.procs.length ∧
    ∀ (p : Nat) v, s.procs[p]? = some v → ∃ a prog v1 v', m.archs[p]? = some a ∧ m.progs[p]? = some prog ∧
      Isa.step a prog v1 = some v' ∧ s'.procs[p]? = some v' ∧ SameButPorts v v1 ∧
      (∀ k i, m.topo.iin[i]? = some ⟨2, p, k⟩ → k < v.inputs.length → k < v.inValid.length →
        v1.inputs[k]? = some ((preIi m.topo (setEnv s e)).iiRegs.getD i 0) ∧
        v1.inValid[k]? = some ((preIi m.topo (setEnv s e)).iiValid.getD i false)) ∧
      (∀ o j, m.topo.iout[j]? = some ⟨3, p, o⟩ → o < v.outRecv.length →
        v1.outRecv[o]? = some (recvOf m.topo.links (preRecvArr m.topo (setEnv s e)) j)) := by
  unfold isaStep at hs
  cases hc : compute m (preMove m.topo (setEnv s e)) with
  | none => rw [hc] at hs; cases hs
  | some s2 =>
    rw [hc] at hs
    cases hs
    obtain ⟨_, hlen, hget⟩ := compute_spec hc
    refine ⟨postMove_coherent _ _, ?_, fun p v hv => ?_⟩
    · rw [postMove_procs, hlen, preMove_procs_length]; rfl
    · obtain ⟨v1, h1, hsb, hin, hout⟩ := preMove_proc h (setEnv s e) (p := p) (v := v) hv
      obtain ⟨a, prog, v', ha, hp, hst, hv'⟩ := hget p v1 h1
      exact ⟨a, prog, v1, v', ha, hp, hst, by rw [postMove_procs]; exact hv', hsb, hin, hout⟩

theorem isaStep_sized {m : Machine} (h : WF m.topo) {s : BmState} {e : EnvIn} {s' : BmState}
    (hs : isaStep m (setEnv s e) = some s') (hz : Sized m s) : Sized m s' := by
  obtain ⟨_, hlen, hget⟩ := isaStep_spec h hs
  intro p v' a hv' ha
  have hp : p < s.procs.length := by rw [← hlen]; exact (List.getElem?_eq_some_iff.mp hv').1
  obtain ⟨a', prog, v1, v'', ha', _, hst, hv'', hsb, _, _⟩ := hget p _ (List.getElem?_eq_getElem hp)
  rw [ha] at ha'; cases ha'
  rw [hv'] at hv''; cases hv''
  have z := hz p _ a (List.getElem?_eq_getElem hp) ha
  have l := step_lens hst
  exact ⟨by rw [l.inputs, hsb.lenI]; exact z.inputs, by rw [l.inValid, hsb.lenV]; exact z.inValid,
    by rw [l.inRecv, hsb.inRecv]; exact z.inRecv, by rw [l.outputs, hsb.outputs]; exact z.outputs,
    by rw [l.outValid, hsb.outValid]; exact z.outValid, by rw [l.outRecv, hsb.lenR]; exact z.outRecv⟩

theorem step_decode {a : Arch} {prog : List Bits} {s s' : VmState} (h : Isa.step a prog s = some s') :
    (decode a prog s.pc = none → s' = Isa.runDeferred s) ∧
    (∀ op body, decode a prog s.pc = some (op, body) → Isa.exec a prog.length op body (Isa.runDeferred s) = some s') := by
  refine ⟨fun hd => ?_, fun op body hd => (step_of_decode hd).symm.trans h⟩
  -- halted: only the deferred instructions run
  unfold decode at hd
  unfold Isa.step at h
  split at h
  · cases h
  · cases hw : prog[s.pc]? with
    | none =>
      simp only [show (Isa.runDeferred s).pc = s.pc from rfl, hw] at h
      exact (Option.some.inj h).symm
    | some w =>
      rw [hw] at hd
      simp only [show (Isa.runDeferred s).pc = s.pc from rfl, hw, Option.map_eq_none_iff.mp hd] at h
      cases h

theorem getElem?_of_getD_lt {α} {l : List α} {k : Nat} {d : α} (hk : k < l.length) : l[k]? = some (l.getD k d) := by
  rw [List.getD_eq_getElem?_getD, List.getElem?_eq_getElem hk]; rfl

theorem exec_i2rw_other {a : Arch} {n : Nat} {body : Bits} {s s' : VmState}
    (h : Isa.exec a n "i2rw" body s = some s') {k' : Nat} (hk' : k' ≠ Isa.field body a.r a.inBits) :
    s'.inRecv.getD k' false = s.inRecv.getD k' false ∧ (k' ∈ s'.deferred ↔ k' ∈ s.deferred) := by
  rw [exec_i2rw_eq] at h
  (repeat' (split at h)) <;> cases h
  · exact ⟨rfl, Iff.rfl⟩
  · exact ⟨by rw [List.getD_eq_getElem?_getD, List.getElem?_set_ne hk'.symm, ← List.getD_eq_getElem?_getD], Iff.rfl⟩
  · exact ⟨by rw [List.getD_eq_getElem?_getD, List.getElem?_set_ne hk'.symm, ← List.getD_eq_getElem?_getD],
      by rw [List.mem_append, List.mem_singleton]; exact ⟨fun hh => hh.resolve_right hk', Or.inl⟩⟩
  · exact ⟨by rw [List.getD_eq_getElem?_getD, List.getElem?_set_ne hk'.symm, ← List.getD_eq_getElem?_getD], Iff.rfl⟩

/-- `i2rw` on input `K` whose valid line shows `V`: recv follows valid, a capture (valid up, recv
    down) leaves a deferred `waitRecvI2rw` behind, and only a capture moves the pc -/
theorem exec_i2rw_port {a : Arch} {n : Nat} {body : Bits} {s s' : VmState}
    (h : Isa.exec a n "i2rw" body s = some s') {V : Bool} (hV : s.inValid[Isa.field body a.r a.inBits]? = some V)
    (hlen : Isa.field body a.r a.inBits < s.inRecv.length) :
    s'.inRecv.getD (Isa.field body a.r a.inBits) false = V ∧
    decide (Isa.field body a.r a.inBits ∈ s'.deferred) =
      (decide (Isa.field body a.r a.inBits ∈ s.deferred) || (V && !s.inRecv.getD (Isa.field body a.r a.inBits) false)) ∧
    ((V && !s.inRecv.getD (Isa.field body a.r a.inBits) false) = false → s'.pc = s.pc) := by
  rw [exec_i2rw_eq, hV, getElem?_of_getD_lt hlen] at h
  have hset : ∀ b, (s.inRecv.set (Isa.field body a.r a.inBits) b).getD (Isa.field body a.r a.inBits) false = b :=
    fun b => by rw [List.getD_eq_getElem?_getD, List.getElem?_set_self hlen]; rfl
  cases hx : s.inputs[Isa.field body a.r a.inBits]? with
  | none => rw [hx] at h; cases V <;> cases h
  | some x =>
    rw [hx] at h
    cases V with
    | false => cases h; exact ⟨hset false, (Bool.or_false _).symm, fun _ => rfl⟩
    | true =>
      dsimp only at h
      cases hr : s.inRecv.getD (Isa.field body a.r a.inBits) false <;> rw [hr] at h
      · rw [if_neg (by decide)] at h
        split at h
        · cases h
          refine ⟨hset true, (decide_eq_true ?_).trans (Bool.or_true _).symm, nofun⟩
          show _ ∈ (if _ then _ else _)
          split
          · assumption
          · exact List.mem_append_right _ (List.mem_singleton_self _)
        · cases h
      · rw [if_pos rfl] at h
        cases h
        exact ⟨hr, (Bool.or_false _).symm, fun _ => rfl⟩

theorem exec_r2owa_other {a : Arch} {n : Nat} {body : Bits} {s s' : VmState}
    (h : Isa.exec a n "r2owa" body s = some s') {o' : Nat} (ho' : o' ≠ Isa.field body a.r a.outBits) :
    s'.outValid.getD o' false = s.outValid.getD o' false := by
  rw [exec_r2owa_eq] at h
  (repeat' (split at h)) <;> cases h
  · rfl
  · rw [List.getD_eq_getElem?_getD, List.getElem?_set_ne ho'.symm, ← List.getD_eq_getElem?_getD]
  · rw [List.getD_eq_getElem?_getD, List.getElem?_set_ne ho'.symm, ← List.getD_eq_getElem?_getD]

/-- `r2owa` on output `O` that is shown `rc` as received: valid ends up as the negation of `rc`
    (a stale recv is waited out with valid low, a fresh one completes the write), and only a
    completion moves the pc -/
theorem exec_r2owa_port {a : Arch} {n : Nat} {body : Bits} {s s' : VmState}
    (h : Isa.exec a n "r2owa" body s = some s') {rc : Bool} (hrc : s.outRecv[Isa.field body a.r a.outBits]? = some rc)
    (hlen : Isa.field body a.r a.outBits < s.outValid.length) :
    s'.outValid.getD (Isa.field body a.r a.outBits) false = !rc ∧
    ((s.outValid.getD (Isa.field body a.r a.outBits) false && rc) = false → s'.pc = s.pc) := by
  rw [exec_r2owa_eq, hrc, getElem?_of_getD_lt hlen] at h
  have hset : ∀ b, (s.outValid.set (Isa.field body a.r a.outBits) b).getD (Isa.field body a.r a.outBits) false = b :=
    fun b => by rw [List.getD_eq_getElem?_getD, List.getElem?_set_self hlen]; rfl
  cases hreg : s.regs[Isa.field body 0 a.r]? with
  | none => rw [hreg] at h; cases h
  | some x =>
    rw [hreg] at h
    dsimp only at h
    cases hv : s.outValid.getD (Isa.field body a.r a.outBits) false <;> cases rc <;> rw [hv] at h
    · rw [if_neg (fun h => nomatch h.2)] at h
      split at h <;> cases h
      exact ⟨hset true, fun _ => rfl⟩
    · rw [if_pos ⟨rfl, rfl⟩] at h
      cases h
      exact ⟨hv, fun _ => rfl⟩
    · rw [if_neg (fun h => nomatch h.1)] at h
      split at h <;> cases h
      exact ⟨hset true, fun _ => rfl⟩
    · rw [if_neg (fun h => nomatch h.1)] at h
      split at h <;> cases h
      exact ⟨hset false, nofun⟩

end BMV.Bm
