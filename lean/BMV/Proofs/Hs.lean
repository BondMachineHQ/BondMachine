/-
  Invariant proofs for the handshake transition systems of BMV.Hs (C04).

  Both worlds have the same shape: per tick every consumer takes one `cstep` (`stepAll`), the
  producer is in one of four situations (idle / waiting on a stale recv resp. starting / completing
  / offering), and `received` is the conjunction of the consumers' recv lines.  The step functions
  are characterised once by the equation of each situation and by the value of each field; the
  invariants are then proved situation by situation from two facts about `cstep` (line low, line
  high).
-/
import BMV.Hs
namespace BMV

theorem foldl_preserve {α β} {f : α → β → α} {Q : α → Prop} :
    ∀ (l : List β), (∀ y ∈ l, ∀ v, Q v → Q (f v y)) → ∀ {v}, Q v → Q (l.foldl f v)
  | [], _, _, hv => hv
  | y :: l, h, v, hv =>
    foldl_preserve l (fun z hz => h z (List.mem_cons_of_mem _ hz)) (h y (List.mem_cons_self ..) v hv)

theorem foldl_establish {α β} {f : α → β → α} {P : α → Prop} {x : β} (hest : ∀ v, P (f v x)) :
    ∀ (l : List β), x ∈ l → (∀ y ∈ l, ∀ v, P v → P (f v y)) → ∀ v, P (l.foldl f v)
  | y :: l, hx, hkeep, v => by
    have hl := fun z hz => hkeep z (List.mem_cons_of_mem _ hz)
    rcases List.mem_cons.mp hx with rfl | hx
    · exact foldl_preserve l hl (hest v)
    · exact foldl_establish hest l hx hl _

end BMV

namespace BMV.Hs

/-- every consumer takes one step with its own `want` bit; an agent the schedule does not mention
    is busy -/
def stepAll {γ : Type} (f : Bool → γ → γ) (cs : List γ) (ws : List Bool) : List γ :=
  (cs.zip (ws ++ List.replicate cs.length false)).map fun (c, w) => f w c

theorem length_stepAll {γ : Type} (f : Bool → γ → γ) (cs : List γ) (ws : List Bool) :
    (stepAll f cs ws).length = cs.length := by
  simp [stepAll]

theorem stepAll_ne_nil {γ : Type} {f : Bool → γ → γ} {cs : List γ} {ws : List Bool} (h : cs ≠ []) :
    stepAll f cs ws ≠ [] :=
  fun e => h (List.eq_nil_of_length_eq_zero (by rw [← length_stepAll f cs ws, e]; rfl))

theorem getD_append_replicate {α} (ws : List α) (n i : Nat) (d : α) :
    ((ws ++ List.replicate n d)[i]?).getD d = ws.getD i d := by
  rw [List.getD_eq_getElem?_getD]
  rcases Nat.lt_or_ge i ws.length with h | h
  · rw [List.getElem?_append_left h]
  · rw [List.getElem?_append_right h, List.getElem?_eq_none h, List.getElem?_replicate]
    split <;> rfl

theorem getElem?_stepAll {γ : Type} (f : Bool → γ → γ) (cs : List γ) (ws : List Bool) (i : Nat) :
    (stepAll f cs ws)[i]? = (cs[i]?).map (f (ws.getD i false)) := by
  unfold stepAll
  rw [List.getElem?_map]
  rcases Nat.lt_or_ge i cs.length with h | h
  · have hl : i < (ws ++ List.replicate cs.length false).length := by
      rw [List.length_append, List.length_replicate]; omega
    have hw : (ws ++ List.replicate cs.length false)[i]? = some (ws.getD i false) := by
      rw [← getD_append_replicate ws cs.length i false, List.getElem?_eq_getElem hl]; rfl
    rw [List.getElem?_zip_eq_some (z := (cs[i], ws.getD i false)) |>.mpr ⟨List.getElem?_eq_getElem h, hw⟩,
      List.getElem?_eq_getElem h]; rfl
  · rw [List.getElem?_eq_none (by rw [List.length_zip]; omega), List.getElem?_eq_none h]; rfl

theorem getD_stepAll {γ : Type} (f : Bool → γ → γ) (cs : List γ) (ws : List Bool) {n : Nat} (hn : n < cs.length)
    (d : γ) : (stepAll f cs ws).getD n d = f (ws.getD n false) (cs.getD n d) := by
  rw [List.getD_eq_getElem?_getD, getElem?_stepAll, List.getD_eq_getElem?_getD (l := cs), List.getElem?_eq_getElem hn]
  rfl

theorem stepAll_raises {γ : Type} {f : Bool → γ → γ} {r : γ → Bool} {cs : List γ} {ws : List Bool} {i : Nat}
    (hi : i < cs.length) (hkeep : ∀ w c, r c = true → r (f w c) = true) (hwant : ∀ c, r (f true c) = true)
    (h : (∃ c, cs[i]? = some c ∧ r c = true) ∨ ws[i]? = some true) :
    ∃ c, (stepAll f cs ws)[i]? = some c ∧ r c = true := by
  rw [getElem?_stepAll, List.getElem?_eq_getElem hi]
  refine ⟨_, rfl, ?_⟩
  rcases h with ⟨c, hc, hr⟩ | hw
  · rw [List.getElem?_eq_getElem hi] at hc
    cases hc
    exact hkeep _ _ hr
  · rw [List.getD_eq_getElem?_getD, hw]
    exact hwant _

theorem forall_mem_stepAll {γ : Type} {f : Bool → γ → γ} {cs : List γ} (ws : List Bool) {P : γ → Prop}
    (h : ∀ c ∈ cs, ∀ w, P (f w c)) : ∀ c' ∈ stepAll f cs ws, P c' := by
  intro c' hc'
  obtain ⟨⟨c, w⟩, hm, rfl⟩ := List.mem_map.mp hc'
  exact h c (List.of_mem_zip hm).1 w

/-! `received`: the conjunction of the consumers' recv lines, low when nobody is bonded -/

theorem received_iff {γ : Type} (r : γ → Bool) (cs : List γ) :
    (!cs.isEmpty && cs.all r) = true ↔ cs ≠ [] ∧ ∀ c ∈ cs, r c = true := by
  cases cs <;> simp

theorem received_false {γ : Type} {r : γ → Bool} {cs : List γ} (h : ∀ c ∈ cs, r c = false) :
    (!cs.isEmpty && cs.all r) = false := by
  cases cs with
  | nil => rfl
  | cons a t => simp [h a (List.mem_cons_self ..)]

theorem received_of_get {γ : Type} {r : γ → Bool} {cs : List γ} (hne : 0 < cs.length)
    (h : ∀ i, i < cs.length → ∃ c, cs[i]? = some c ∧ r c = true) : (!cs.isEmpty && cs.all r) = true := by
  refine (received_iff r cs).mpr ⟨fun e => by rw [e] at hne; exact Nat.lt_irrefl _ hne, fun c hc => ?_⟩
  obtain ⟨i, hi, rfl⟩ := List.getElem_of_mem hc
  obtain ⟨c', hc', hr⟩ := h i hi
  rw [List.getElem?_eq_getElem hi] at hc'
  cases hc'
  exact hr

theorem all_congr_idx {α β : Type} {f : α → Bool} {g : β → Bool} :
    ∀ {l1 : List α} {l2 : List β}, l1.length = l2.length →
      (∀ (n : Nat) x y, l1[n]? = some x → l2[n]? = some y → f x = g y) → l1.all f = l2.all g
  | [], [], _, _ => rfl
  | [], _ :: _, hl, _ => nomatch hl
  | _ :: _, [], hl, _ => nomatch hl
  | x :: l1, y :: l2, hl, h => by
    rw [List.all_cons, List.all_cons, h 0 x y rfl rfl,
      all_congr_idx (Nat.succ.inj hl) fun n a b ha hb => h (n + 1) a b ha hb]

theorem received_congr {α β : Type} {f : α → Bool} {g : β → Bool} {l1 : List α} {l2 : List β}
    (hl : l1.length = l2.length) (h : ∀ (n : Nat) x y, l1[n]? = some x → l2[n]? = some y → f x = g y) :
    (!l1.isEmpty && l1.all f) = (!l2.isEmpty && l2.all g) := by
  rw [all_congr_idx hl h]
  cases l1 <;> cases l2 <;> first | rfl | exact nomatch hl

/-! what a consumer holds relative to the producer: all completed writes, or those and the value
    on offer -/

section stream
variable {offer : Bool} {next : Nat} {sent got : List Nat}

theorem got_eq_range (hs : sent = List.range next) (hg : got = sent ∨ (offer = true ∧ got = sent ++ [next])) :
    got = List.range got.length := by
  subst hs
  rcases hg with g | ⟨_, g⟩
  · rw [g, List.length_range]
  · rw [g, List.length_append, List.length_range, List.length_singleton, List.range_succ]

theorem next_le_got (hs : sent = List.range next) (hg : got = sent ∨ (offer = true ∧ got = sent ++ [next])) :
    next ≤ got.length := by
  subst hs
  rcases hg with g | ⟨_, g⟩
  · rw [g, List.length_range]; exact Nat.le_refl _
  · rw [g, List.length_append, List.length_range]; exact Nat.le_add_right _ _

theorem got_prefix_offered (hg : got = sent ∨ (offer = true ∧ got = sent ++ [next])) :
    got <+: (if offer then sent ++ [next] else sent) ∧
      (if offer then sent ++ [next] else sent).length - got.length ≤ 1 := by
  cases offer
  · rcases hg with g | ⟨h, _⟩
    · rw [g]; exact ⟨List.prefix_refl _, by simp⟩
    · cases h
  · rcases hg with g | ⟨_, g⟩
    · rw [g]; exact ⟨List.prefix_append _ _, by simp⟩
    · rw [g]; exact ⟨List.prefix_refl _, by simp⟩

end stream

end BMV.Hs

namespace BMV.Hs.Isa

/-- per-consumer invariant relative to the producer's state -/
def CInv (V : Bool) (v : Nat) (sent : List Nat) (c : Cons) : Prop :=
  c.deferred = c.recv ∧
  (if V then (c.recv = true ∧ c.got = sent ++ [v]) ∨ (c.recv = false ∧ c.got = sent) else c.got = sent)

def Inv (s : St) : Prop :=
  s.sent = List.range s.next ∧
  (s.valid = true → s.atIO = true ∧ s.data = s.next) ∧
  (∀ c ∈ s.cs, CInv s.valid s.next s.sent c) ∧
  (s.valid = false → (∀ c ∈ s.cs, c.recv = true) ∨ (∀ c ∈ s.cs, c.recv = false))

theorem inv_init (k : Nat) : Inv (init k) :=
  have h : ∀ c ∈ (init k).cs, c = {} := fun c hc => (List.mem_replicate.mp hc).2
  ⟨rfl, nofun, fun c hc => by rw [h c hc]; exact ⟨rfl, rfl⟩, fun _ => .inr fun c hc => by rw [h c hc]⟩

theorem step_idle {s : St} {sch : Sched} (ha : (s.atIO || sch.p) = false) :
    step s sch = { s with cs := stepAll (cstep s.valid s.data) s.cs sch.c } := by
  unfold step stepAll
  simp only [ha, Bool.false_eq_true, if_false]

/-- the producer finds a recv that is still up from the previous transfer: it waits -/
theorem step_stale {s : St} {sch : Sched} (ha : (s.atIO || sch.p) = true) (hv : s.valid = false)
    (hr : (!s.cs.isEmpty && s.cs.all (·.recv)) = true) :
    step s sch = { s with atIO := true, cs := stepAll (cstep s.valid s.data) s.cs sch.c } := by
  unfold step stepAll
  simp only [ha, hv, hr, Bool.not_false, Bool.and_self, if_true]

theorem step_complete {s : St} {sch : Sched} (ha : (s.atIO || sch.p) = true) (hv : s.valid = true)
    (hr : (!s.cs.isEmpty && s.cs.all (·.recv)) = true) :
    step s sch = { s with atIO := false, valid := false, data := s.next, sent := s.sent ++ [s.next],
                          next := s.next + 1, cs := stepAll (cstep s.valid s.data) s.cs sch.c } := by
  unfold step stepAll
  simp only [ha, hv, hr, Bool.not_true, Bool.false_and, Bool.false_eq_true, if_true, if_false]

theorem step_offer {s : St} {sch : Sched} (ha : (s.atIO || sch.p) = true)
    (hr : (!s.cs.isEmpty && s.cs.all (·.recv)) = false) :
    step s sch = { s with atIO := true, valid := true, data := s.next,
                          cs := stepAll (cstep s.valid s.data) s.cs sch.c } := by
  unfold step stepAll
  simp only [ha, hr, Bool.and_false, Bool.false_eq_true, if_true, if_false]

theorem step_cs (s : St) (sch : Sched) : (step s sch).cs = stepAll (cstep s.valid s.data) s.cs sch.c := by
  unfold step stepAll
  dsimp only
  cases s.valid <;> cases (s.atIO || sch.p) <;> cases (!s.cs.isEmpty && s.cs.all (·.recv)) <;> rfl

theorem step_next (s : St) (sch : Sched) :
    (step s sch).next =
      if ((s.atIO || sch.p) && s.valid && (!s.cs.isEmpty && s.cs.all (·.recv))) = true then s.next + 1 else s.next := by
  unfold step
  dsimp only
  cases s.valid <;> cases (s.atIO || sch.p) <;> cases (!s.cs.isEmpty && s.cs.all (·.recv)) <;> rfl

theorem step_valid (s : St) (sch : Sched) :
    (step s sch).valid =
      if (s.atIO || sch.p) = true then
        (if (!s.cs.isEmpty && s.cs.all (·.recv)) = true then false else true)
      else s.valid := by
  unfold step
  dsimp only
  cases s.valid <;> cases (s.atIO || sch.p) <;> cases (!s.cs.isEmpty && s.cs.all (·.recv)) <;> rfl

theorem step_atIO (s : St) (sch : Sched) :
    (step s sch).atIO =
      if (s.atIO || sch.p) = true then
        (if (!s.valid && (!s.cs.isEmpty && s.cs.all (·.recv))) = true then true
         else if (!s.cs.isEmpty && s.cs.all (·.recv)) = true then false else true)
      else s.atIO := by
  unfold step
  dsimp only
  cases s.valid <;> cases (s.atIO || sch.p) <;> cases (!s.cs.isEmpty && s.cs.all (·.recv)) <;> rfl

theorem cstep_low {v : Nat} {sent : List Nat} {c : Cons} (d : Nat) (w : Bool) (h : CInv false v sent c) :
    (cstep false d w c).recv = false ∧ ∀ V, CInv V v sent (cstep false d w c) := by
  obtain ⟨a, r, df, g⟩ := c
  obtain ⟨hd, hg⟩ := h
  cases hd
  cases (show g = sent from hg)
  cases a <;> cases r <;> cases w <;>
    exact ⟨rfl, fun V => ⟨rfl, by cases V; exact rfl; exact .inr ⟨rfl, rfl⟩⟩⟩

theorem cstep_high {v : Nat} {sent : List Nat} {c : Cons} (w : Bool) (h : CInv true v sent c) :
    CInv true v sent (cstep true v w c) ∧
    (c.recv = true → (cstep true v w c).recv = true ∧ CInv false (v + 1) (sent ++ [v]) (cstep true v w c)) := by
  obtain ⟨a, r, df, g⟩ := c
  obtain ⟨hd, hg⟩ := h
  cases hd
  rcases (show (r = true ∧ g = sent ++ [v]) ∨ (r = false ∧ g = sent) from hg) with ⟨rfl, rfl⟩ | ⟨rfl, rfl⟩
  · cases a <;> cases w <;> exact ⟨⟨rfl, .inl ⟨rfl, rfl⟩⟩, fun _ => ⟨rfl, rfl, rfl⟩⟩
  · cases a
    · cases w
      · exact ⟨⟨rfl, .inr ⟨rfl, rfl⟩⟩, nofun⟩
      · exact ⟨⟨rfl, .inl ⟨rfl, rfl⟩⟩, nofun⟩
    · cases w <;> exact ⟨⟨rfl, .inl ⟨rfl, rfl⟩⟩, nofun⟩

theorem inv_quiet {s : St} (hsent : s.sent = List.range s.next) (a : Bool) {cs' : List Cons}
    (hg : ∀ c ∈ cs', CInv false s.next s.sent c)
    (hr : (∀ c ∈ cs', c.recv = true) ∨ (∀ c ∈ cs', c.recv = false)) :
    Inv { s with atIO := a, valid := false, cs := cs' } :=
  ⟨hsent, nofun, hg, fun _ => hr⟩

/-- valid low: every consumer ends the tick with recv low, holding exactly `sent`; the producer
    stays away, waits on a stale recv, or raises valid -/
theorem inv_step_low {s : St} (h : Inv s) (hv : s.valid = false) (sch : Sched) : Inv (step s sch) := by
  obtain ⟨hsent, _, hcs, _⟩ := h
  have hlow : ∀ c' ∈ stepAll (cstep false s.data) s.cs sch.c, c'.recv = false ∧ ∀ V, CInv V s.next s.sent c' :=
    forall_mem_stepAll sch.c fun c hc w => cstep_low s.data w (hv ▸ hcs c hc)
  have hq := fun a => inv_quiet hsent a (fun c hc => (hlow c hc).2 false) (.inr fun c hc => (hlow c hc).1)
  cases ha : (s.atIO || sch.p)
  · rw [step_idle ha, hv]; exact hq _
  · cases hr : (!s.cs.isEmpty && s.cs.all (·.recv))
    · rw [step_offer ha hr, hv]
      exact ⟨hsent, fun _ => ⟨rfl, rfl⟩, fun c hc => (hlow c hc).2 true, nofun⟩
    · rw [step_stale ha hv hr, hv]; exact hq _

/-- valid high: the producer sits at its instruction; the offer stands, or, when all consumers hold
    the value, the write completes -/
theorem inv_step_high {s : St} (h : Inv s) (hv : s.valid = true) (sch : Sched) : Inv (step s sch) := by
  obtain ⟨hsent, hval, hcs, _⟩ := h
  obtain ⟨hat, hdata⟩ := hval hv
  have ha : (s.atIO || sch.p) = true := by rw [hat]; rfl
  cases hr : (!s.cs.isEmpty && s.cs.all (·.recv))
  · rw [step_offer ha hr, hv, hdata]
    exact ⟨hsent, fun _ => ⟨rfl, rfl⟩,
      forall_mem_stepAll sch.c fun c hc w => (cstep_high w (hv ▸ hcs c hc)).1, nofun⟩
  · have hnew : ∀ c' ∈ stepAll (cstep true s.next) s.cs sch.c,
        c'.recv = true ∧ CInv false (s.next + 1) (s.sent ++ [s.next]) c' :=
      forall_mem_stepAll sch.c fun c hc w =>
        (cstep_high w (hv ▸ hcs c hc)).2 (((received_iff _ _).mp hr).2 c hc)
    rw [step_complete ha hv hr, hv, hdata]
    exact ⟨by rw [hsent, List.range_succ], nofun, fun c hc => (hnew c hc).2, fun _ => .inl fun c hc => (hnew c hc).1⟩

theorem inv_step (s : St) (sch : Sched) (h : Inv s) : Inv (step s sch) := by
  cases hv : s.valid
  · exact inv_step_low h hv sch
  · exact inv_step_high h hv sch

theorem inv_run (k : Nat) (schs : List Sched) : Inv (run (init k) schs) :=
  foldl_preserve schs (fun sch _ s h => inv_step s sch h) (inv_init k)

theorem got_of_inv {s : St} (h : Inv s) :
    s.sent = List.range s.next ∧
    ∀ c ∈ s.cs, c.got = s.sent ∨ (s.valid = true ∧ c.got = s.sent ++ [s.next]) := by
  refine ⟨h.1, fun c hc => ?_⟩
  have hg := (h.2.2.1 c hc).2
  cases hv : s.valid <;> rw [hv] at hg
  · exact .inl hg
  · exact hg.elim (fun g => .inr ⟨rfl, g.2⟩) (fun g => .inl g.2)

end BMV.Hs.Isa

namespace BMV.Hs.Rtl

/-- per-consumer invariant; `offer` = the producer is offering `v` (waitsm ∧ oVal) -/
def CInv (offer : Bool) (v : Nat) (sent : List Nat) (c : Cons) : Prop :=
  if offer then (c.recv = true ∧ c.got = sent ++ [v]) ∨ (c.recv = false ∧ c.got = sent) else c.got = sent

/-- The last clause (with no offer and valid low the recv lines are all up or all down) mirrors the
    last clause of `Isa.Inv`; like there it is carried along by `inv_step` without being needed
    for it, as the fact the consumers re-arm together. -/
def Inv (s : St) : Prop :=
  s.sent = List.range s.next ∧
  (s.waitsm = true → s.atIO = true) ∧
  (s.waitsm = true → s.oVal = true → s.auxo = s.next) ∧
  (∀ c ∈ s.cs, CInv (s.waitsm && s.oVal) s.next s.sent c) ∧
  (s.waitsm = true → s.oVal = false → ∀ c ∈ s.cs, c.recv = false) ∧
  (s.waitsm = false → s.oVal = true → s.cs ≠ [] ∧ ∀ c ∈ s.cs, c.recv = true) ∧
  (s.waitsm = false → s.oVal = false → (∀ c ∈ s.cs, c.recv = true) ∨ (∀ c ∈ s.cs, c.recv = false))

theorem inv_init (k : Nat) : Inv (init k) :=
  have h : ∀ c ∈ (init k).cs, c = {} := fun c hc => (List.mem_replicate.mp hc).2
  ⟨rfl, nofun, nofun, fun c hc => by rw [h c hc]; exact rfl, nofun, (fun _ h => nomatch h),
    fun _ _ => .inr fun c hc => by rw [h c hc]⟩

/-! `oK_val` falls in the clock after `received` is seen, whatever the main block does, unless the
state machine sets it. -/

theorem step_idle {s : St} {sch : Sched} (ha : (s.atIO || sch.p) = false) :
    step s sch = { s with oVal := s.oVal && !(!s.cs.isEmpty && s.cs.all (·.recv)),
                          cs := stepAll (cstep s.oVal s.auxo) s.cs sch.c } := by
  unfold step stepAll
  simp only [ha, Bool.false_eq_true, if_false]
  cases s.oVal <;> cases (!s.cs.isEmpty && s.cs.all (·.recv)) <;> rfl

/-- the `r2owa` starts: `waitsm` rises unless a recv from the previous transfer is still up -/
theorem step_start {s : St} {sch : Sched} (ha : (s.atIO || sch.p) = true) (hw : s.waitsm = false) :
    step s sch = { s with atIO := true, waitsm := !(!s.cs.isEmpty && s.cs.all (·.recv)),
                          oVal := s.oVal && !(!s.cs.isEmpty && s.cs.all (·.recv)),
                          cs := stepAll (cstep s.oVal s.auxo) s.cs sch.c } := by
  unfold step stepAll
  simp only [ha, hw, Bool.not_false, if_true]
  cases s.oVal <;> cases (!s.cs.isEmpty && s.cs.all (·.recv)) <;> rfl

theorem step_complete {s : St} {sch : Sched} (ha : (s.atIO || sch.p) = true) (hw : s.waitsm = true)
    (hr : (!s.cs.isEmpty && s.cs.all (·.recv)) = true) :
    step s sch = { s with atIO := false, waitsm := false, oVal := true, auxo := s.next,
                          sent := s.sent ++ [s.next], next := s.next + 1,
                          cs := stepAll (cstep s.oVal s.auxo) s.cs sch.c } := by
  unfold step stepAll
  simp only [ha, hw, hr, Bool.not_true, Bool.false_eq_true, if_true, if_false]

theorem step_offer {s : St} {sch : Sched} (ha : (s.atIO || sch.p) = true) (hw : s.waitsm = true)
    (hr : (!s.cs.isEmpty && s.cs.all (·.recv)) = false) :
    step s sch = { s with atIO := true, oVal := true, auxo := s.next,
                          cs := stepAll (cstep s.oVal s.auxo) s.cs sch.c } := by
  unfold step stepAll
  simp only [ha, hw, hr, Bool.not_true, Bool.false_eq_true, if_true, if_false]

theorem step_cs (s : St) (sch : Sched) : (step s sch).cs = stepAll (cstep s.oVal s.auxo) s.cs sch.c := by
  unfold step stepAll
  dsimp only
  cases s.waitsm <;> cases (s.atIO || sch.p) <;> cases (!s.cs.isEmpty && s.cs.all (·.recv)) <;> rfl

theorem step_next (s : St) (sch : Sched) :
    (step s sch).next =
      if ((s.atIO || sch.p) && s.waitsm && (!s.cs.isEmpty && s.cs.all (·.recv))) = true then s.next + 1 else s.next := by
  unfold step
  dsimp only
  cases s.waitsm <;> cases (s.atIO || sch.p) <;> cases (!s.cs.isEmpty && s.cs.all (·.recv)) <;> rfl

theorem step_waitsm (s : St) (sch : Sched) :
    (step s sch).waitsm =
      if (s.atIO || sch.p) = true then
        (if s.waitsm = false then !(!s.cs.isEmpty && s.cs.all (·.recv))
         else if (!s.cs.isEmpty && s.cs.all (·.recv)) = true then false else true)
      else s.waitsm := by
  unfold step
  dsimp only
  cases s.waitsm <;> cases (s.atIO || sch.p) <;> cases (!s.cs.isEmpty && s.cs.all (·.recv)) <;> rfl

theorem step_oVal (s : St) (sch : Sched) :
    (step s sch).oVal =
      if (s.atIO || sch.p) = true then
        (if s.waitsm = false then (if (!s.cs.isEmpty && s.cs.all (·.recv)) = true then false else s.oVal) else true)
      else (if (!s.cs.isEmpty && s.cs.all (·.recv)) = true then false else s.oVal) := by
  unfold step
  dsimp only
  cases s.waitsm <;> cases (s.atIO || sch.p) <;> cases (!s.cs.isEmpty && s.cs.all (·.recv)) <;> rfl

theorem step_atIO (s : St) (sch : Sched) :
    (step s sch).atIO =
      if (s.atIO || sch.p) = true then
        (if s.waitsm = false then true
         else if (!s.cs.isEmpty && s.cs.all (·.recv)) = true then false else true)
      else s.atIO := by
  unfold step
  dsimp only
  cases s.waitsm <;> cases (s.atIO || sch.p) <;> cases (!s.cs.isEmpty && s.cs.all (·.recv)) <;> rfl

theorem cstep_low {v : Nat} {sent : List Nat} {c : Cons} (d : Nat) (w : Bool) (h : c.got = sent) :
    (cstep false d w c).recv = false ∧ ∀ V, CInv V v sent (cstep false d w c) := by
  obtain ⟨a, r, g⟩ := c
  cases (show g = sent from h)
  cases a <;> cases r <;> cases w <;> exact ⟨rfl, fun V => by cases V; exact rfl; exact .inr ⟨rfl, rfl⟩⟩

theorem cstep_keep {c : Cons} (d : Nat) (w : Bool) (h : c.recv = true) :
    (cstep true d w c).recv = true ∧ (cstep true d w c).got = c.got := by
  obtain ⟨a, r, g⟩ := c
  cases (show r = true from h)
  cases a <;> cases w <;> exact ⟨rfl, rfl⟩

theorem cstep_high {v : Nat} {sent : List Nat} {c : Cons} (w : Bool) (h : CInv true v sent c) :
    CInv true v sent (cstep true v w c) := by
  obtain ⟨a, r, g⟩ := c
  rcases (show (r = true ∧ g = sent ++ [v]) ∨ (r = false ∧ g = sent) from h) with ⟨rfl, rfl⟩ | ⟨rfl, rfl⟩
  · cases a <;> cases w <;> exact .inl ⟨rfl, rfl⟩
  · cases a
    · cases w
      · exact .inr ⟨rfl, rfl⟩
      · exact .inl ⟨rfl, rfl⟩
    · cases w <;> exact .inl ⟨rfl, rfl⟩

theorem inv_quiet {s : St} (hsent : s.sent = List.range s.next) (a : Bool) {cs' : List Cons}
    (hg : ∀ c ∈ cs', c.got = s.sent) (hr : (∀ c ∈ cs', c.recv = true) ∨ (∀ c ∈ cs', c.recv = false)) :
    Inv { s with atIO := a, waitsm := false, oVal := false, cs := cs' } :=
  ⟨hsent, nofun, nofun, hg, nofun, (fun _ h => nomatch h), fun _ _ => hr⟩

/-- idle, valid low: every consumer ends the clock with recv low, holding exactly `sent`; the
    producer stays away, waits on a stale recv, or raises `waitsm` -/
theorem inv_step_idle {s : St} (h : Inv s) (hw : s.waitsm = false) (ho : s.oVal = false) (sch : Sched) :
    Inv (step s sch) := by
  obtain ⟨hsent, _, _, hcs, _⟩ := h
  rw [hw, ho] at hcs
  have hlow : ∀ c' ∈ stepAll (cstep false s.auxo) s.cs sch.c, c'.recv = false ∧ ∀ V, CInv V s.next s.sent c' :=
    forall_mem_stepAll sch.c fun c hc w => cstep_low s.auxo w (hcs c hc)
  have hq := fun a => inv_quiet hsent a (fun c hc => (hlow c hc).2 false) (.inr fun c hc => (hlow c hc).1)
  cases ha : (s.atIO || sch.p)
  · rw [step_idle ha, hw, ho]; exact hq _
  · cases hr : (!s.cs.isEmpty && s.cs.all (·.recv))
    · rw [step_start ha hw, ho, hr]
      exact ⟨hsent, fun _ => rfl, (fun _ h => nomatch h), fun c hc => (hlow c hc).2 false,
        fun _ _ c hc => (hlow c hc).1, nofun, nofun⟩
    · rw [step_start ha hw, ho, hr]; exact hq _

/-- valid lingers after a completed write: everybody holds the value, valid falls -/
theorem inv_step_linger {s : St} (h : Inv s) (hw : s.waitsm = false) (ho : s.oVal = true) (sch : Sched) :
    Inv (step s sch) := by
  obtain ⟨hsent, _, _, hcs, _, hC, _⟩ := h
  rw [hw, ho] at hcs
  obtain ⟨hne, hallr⟩ := hC hw ho
  have hr := (received_iff (·.recv) s.cs).mpr ⟨hne, hallr⟩
  have hkeep : ∀ c' ∈ stepAll (cstep true s.auxo) s.cs sch.c, c'.recv = true ∧ c'.got = s.sent :=
    forall_mem_stepAll sch.c fun c hc w =>
      ⟨(cstep_keep s.auxo w (hallr c hc)).1, (cstep_keep s.auxo w (hallr c hc)).2.trans (hcs c hc)⟩
  have hq := fun a => inv_quiet hsent a (fun c hc => (hkeep c hc).2) (.inl fun c hc => (hkeep c hc).1)
  cases ha : (s.atIO || sch.p)
  · rw [step_idle ha, hw, ho, hr]; exact hq _
  · rw [step_start ha hw, ho, hr]; exact hq _

/-- `waitsm` set, valid still low: all recv low, so the value goes on offer -/
theorem inv_step_waiting {s : St} (h : Inv s) (hw : s.waitsm = true) (ho : s.oVal = false) (sch : Sched) :
    Inv (step s sch) := by
  obtain ⟨hsent, hwa, _, hcs, hA, _⟩ := h
  rw [hw, ho] at hcs
  have ha : (s.atIO || sch.p) = true := by rw [hwa hw]; rfl
  rw [step_offer ha hw (received_false (hA hw ho)), hw, ho]
  exact ⟨hsent, fun _ => rfl, fun _ _ => rfl,
    forall_mem_stepAll sch.c fun c hc w => (cstep_low s.auxo w (hcs c hc)).2 true,
    (fun _ h => nomatch h), nofun, nofun⟩

/-- the value is on offer: it stays on offer, or, when every consumer holds it, the write completes
    and valid lingers -/
theorem inv_step_offer {s : St} (h : Inv s) (hw : s.waitsm = true) (ho : s.oVal = true) (sch : Sched) :
    Inv (step s sch) := by
  obtain ⟨hsent, hwa, haux, hcs, _⟩ := h
  rw [hw, ho] at hcs
  have ha : (s.atIO || sch.p) = true := by rw [hwa hw]; rfl
  cases hr : (!s.cs.isEmpty && s.cs.all (·.recv))
  · rw [step_offer ha hw hr, hw, ho, haux hw ho]
    exact ⟨hsent, fun _ => rfl, fun _ _ => rfl,
      forall_mem_stepAll sch.c fun c hc w => cstep_high w (hcs c hc), (fun _ h => nomatch h), nofun, nofun⟩
  · obtain ⟨hne, hallr⟩ := (received_iff _ _).mp hr
    have hnew : ∀ c' ∈ stepAll (cstep true s.auxo) s.cs sch.c, c'.recv = true ∧ c'.got = s.sent ++ [s.next] :=
      forall_mem_stepAll sch.c fun c hc w =>
        ⟨(cstep_keep s.auxo w (hallr c hc)).1, (cstep_keep s.auxo w (hallr c hc)).2.trans
          ((hcs c hc).elim (·.2) fun h => nomatch (hallr c hc).symm.trans h.1)⟩
    rw [step_complete ha hw hr, ho]
    exact ⟨by rw [hsent, List.range_succ], nofun, nofun, fun c hc => (hnew c hc).2, nofun,
      fun _ _ => ⟨stepAll_ne_nil hne, fun c hc => (hnew c hc).1⟩, (fun _ h => nomatch h)⟩

theorem inv_step (s : St) (sch : Sched) (h : Inv s) : Inv (step s sch) := by
  cases hw : s.waitsm <;> cases ho : s.oVal
  · exact inv_step_idle h hw ho sch
  · exact inv_step_linger h hw ho sch
  · exact inv_step_waiting h hw ho sch
  · exact inv_step_offer h hw ho sch

theorem inv_run (k : Nat) (schs : List Sched) : Inv (run (init k) schs) :=
  foldl_preserve schs (fun sch _ s h => inv_step s sch h) (inv_init k)

theorem got_of_inv {s : St} (h : Inv s) :
    s.sent = List.range s.next ∧
    ∀ c ∈ s.cs, c.got = s.sent ∨ ((s.waitsm && s.oVal) = true ∧ c.got = s.sent ++ [s.next]) := by
  refine ⟨h.1, fun c hc => ?_⟩
  have hg : CInv _ _ _ c := h.2.2.2.1 c hc
  cases ho : (s.waitsm && s.oVal) <;> rw [ho] at hg
  · exact .inl hg
  · exact hg.elim (fun g => .inr ⟨rfl, g.2⟩) (fun g => .inl g.2)

end BMV.Hs.Rtl
