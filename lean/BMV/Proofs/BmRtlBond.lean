/-
  C02 helper: one bond of a clock of the hardware world (`Bm.rtlCycle`) projects onto one step of
  C04's handshake model `Hs.Rtl.step` (`rtl_bond_projects`), hence every run of the hardware
  composition projects bond by bond onto a run of `Hs.Rtl` (`rtl_bond_run_projects`).
-/
import BMV.Proofs.BmIsaBond
namespace BMV.Bm
open BMV BMV.Bits BMV.Topology

/-! The arm of `Rtl.mainBlock` for a given opcode is selected by deciding the string comparisons of its
`if` chain, wherever the arm stands in it. -/

theorem mainBlock_r2owa {a : Arch} {cur : Nat} (s : RtlState) (p : PortsIn) (h : Rtl.curOp a cur = some "r2owa") :
    Rtl.mainBlock a cur s p =
      (if Rtl.part cur a.maxWord (a.opBits + a.r) a.outBits < a.m then
        if s.waitsm = false then
          (if p.outRecv.getD (Rtl.part cur a.maxWord (a.opBits + a.r) a.outBits) false = false then { s with waitsm := true } else s)
        else
          if p.outRecv.getD (Rtl.part cur a.maxWord (a.opBits + a.r) a.outBits) false then
            { s with auxo := s.auxo.set (Rtl.part cur a.maxWord (a.opBits + a.r) a.outBits) (s.regs.getD (Rtl.part cur a.maxWord a.opBits a.r) 0),
                     pc := (s.pc + 1) % 2 ^ a.o, waitsm := false }
          else { s with auxo := s.auxo.set (Rtl.part cur a.maxWord (a.opBits + a.r) a.outBits) (s.regs.getD (Rtl.part cur a.maxWord a.opBits a.r) 0) }
      else s) := by
  simp only [Rtl.mainBlock, h, Rtl.unops, Rtl.binops, Rtl.pipeOps, ↓reduceIte, String.reduceEq, List.mem_cons,
    List.not_mem_nil, or_self]

theorem mainBlock_i2rw {a : Arch} {cur : Nat} (s : RtlState) (p : PortsIn) (h : Rtl.curOp a cur = some "i2rw") :
    Rtl.mainBlock a cur s p =
      (if Rtl.part cur a.maxWord (a.opBits + a.r) a.inBits < a.n ∧
          p.inValid.getD (Rtl.part cur a.maxWord (a.opBits + a.r) a.inBits) false ∧
          s.iRecv.getD (Rtl.part cur a.maxWord (a.opBits + a.r) a.inBits) false = false then
        { s with pc := (s.pc + 1) % 2 ^ a.o,
                 regs := s.regs.set (Rtl.part cur a.maxWord a.opBits a.r) (p.inputs.getD (Rtl.part cur a.maxWord (a.opBits + a.r) a.inBits) 0) }
      else s) := by
  simp only [Rtl.mainBlock, h, Rtl.unops, Rtl.binops, Rtl.pipeOps, ↓reduceIte, String.reduceEq, List.mem_cons,
    List.not_mem_nil, or_self]

theorem mainBlock_waitsm {a : Arch} {cur : Nat} (s : RtlState) (p : PortsIn) (h : Rtl.curOp a cur ≠ some "r2owa") :
    (Rtl.mainBlock a cur s p).waitsm = s.waitsm := by
  unfold Rtl.mainBlock
  cases hc : Rtl.curOp a cur with
  | none => rfl
  | some op =>
    have hop : op ≠ "r2owa" := fun e => h (by rw [hc, e])
    -- every other arm returns `s` with some field other than `waitsm` replaced
    simp only [apply_ite RtlState.waitsm, RtlState.setPipe, if_neg hop, ite_self]

theorem cycle_oVal (a : Arch) (prog : List Bits) (s : RtlState) (p : PortsIn) (o : Nat) (ho : o < a.m) :
    (Rtl.cycle a prog s p).oVal.getD o false = Rtl.valBlock a (Rtl.fetch prog s.pc) s p o := by
  simp [Rtl.cycle, List.getD_eq_getElem?_getD, List.getElem?_map, List.getElem?_range ho]

theorem cycle_iRecv (a : Arch) (prog : List Bits) (s : RtlState) (p : PortsIn) (k : Nat) (hk : k < a.n) :
    (Rtl.cycle a prog s p).iRecv.getD k false = Rtl.recvBlock a (Rtl.fetch prog s.pc) s p k := by
  simp [Rtl.cycle, List.getD_eq_getElem?_getD, List.getElem?_map, List.getElem?_range hk]

theorem cycle_main (a : Arch) (prog : List Bits) (s : RtlState) (p : PortsIn) :
    (Rtl.cycle a prog s p).pc = (Rtl.mainBlock a (Rtl.fetch prog s.pc) s p).pc ∧
    (Rtl.cycle a prog s p).waitsm = (Rtl.mainBlock a (Rtl.fetch prog s.pc) s p).waitsm := ⟨rfl, rfl⟩

def rtlAtR2owa (a : Arch) (prog : List Bits) (pc o : Nat) : Bool :=
  Rtl.curOp a (Rtl.fetch prog pc) == some "r2owa" &&
    Rtl.part (Rtl.fetch prog pc) a.maxWord (a.opBits + a.r) a.outBits == o

def rtlAtI2rw (a : Arch) (prog : List Bits) (pc k : Nat) : Bool :=
  Rtl.curOp a (Rtl.fetch prog pc) == some "i2rw" &&
    Rtl.part (Rtl.fetch prog pc) a.maxWord (a.opBits + a.r) a.inBits == k

/-- `waitsm` is up only while the processor sits at an `r2owa` with an existing output -/
def WInv (a : Arch) (prog : List Bits) (s : RtlState) : Prop :=
  s.waitsm = true → Rtl.curOp a (Rtl.fetch prog s.pc) = some "r2owa" ∧
    Rtl.part (Rtl.fetch prog s.pc) a.maxWord (a.opBits + a.r) a.outBits < a.m

theorem winv_reset (a : Arch) (prog : List Bits) : WInv a prog (Rtl.reset a) := by
  intro h; simp [Rtl.reset] at h

theorem cycle_waitsm {a : Arch} {prog : List Bits} {s : RtlState} {p : PortsIn} (hinv : WInv a prog s)
    (hw : (Rtl.cycle a prog s p).waitsm = true) :
    Rtl.curOp a (Rtl.fetch prog s.pc) = some "r2owa" ∧
      Rtl.part (Rtl.fetch prog s.pc) a.maxWord (a.opBits + a.r) a.outBits < a.m ∧ (Rtl.cycle a prog s p).pc = s.pc := by
  rw [(cycle_main a prog s p).2] at hw
  rw [(cycle_main a prog s p).1]
  by_cases hc : Rtl.curOp a (Rtl.fetch prog s.pc) = some "r2owa"
  · rw [mainBlock_r2owa s p hc] at hw ⊢
    by_cases hlt : Rtl.part (Rtl.fetch prog s.pc) a.maxWord (a.opBits + a.r) a.outBits < a.m
    · rw [if_pos hlt] at hw ⊢
      refine ⟨hc, hlt, ?_⟩
      cases hws : s.waitsm <;>
        cases hr : p.outRecv.getD (Rtl.part (Rtl.fetch prog s.pc) a.maxWord (a.opBits + a.r) a.outBits) false <;>
        rw [hws, hr] at hw
      · rfl
      · exact absurd (hws.symm.trans hw) Bool.false_ne_true
      · rfl
      · cases hw
    · rw [if_neg hlt] at hw
      exact absurd (hinv hw).2 hlt
  · rw [mainBlock_waitsm s p hc] at hw
    exact absurd (hinv hw).1 hc

theorem winv_cycle (a : Arch) (prog : List Bits) (s : RtlState) (p : PortsIn) (h : WInv a prog s) :
    WInv a prog (Rtl.cycle a prog s p) := fun hw => by
  obtain ⟨hc, hlt, hpc⟩ := cycle_waitsm h hw
  rw [hpc]
  exact ⟨hc, hlt⟩

theorem valBlock_at {a : Arch} {prog : List Bits} (s : RtlState) (p : PortsIn) (o : Nat)
    (hno : Rtl.curOp a (Rtl.fetch prog s.pc) ≠ some "r2o") :
    Rtl.valBlock a (Rtl.fetch prog s.pc) s p o =
      if rtlAtR2owa a prog s.pc o = true then
        (if s.waitsm = true then true else if p.outRecv.getD o false = true then false else s.oVal.getD o false)
      else (if p.outRecv.getD o false = true then false else s.oVal.getD o false) := by
  unfold Rtl.valBlock rtlAtR2owa
  cases hco : Rtl.curOp a (Rtl.fetch prog s.pc) with
  | none => rfl
  | some op =>
    by_cases h1 : op = "r2owa"
    · subst h1
      by_cases hsel : Rtl.part (Rtl.fetch prog s.pc) a.maxWord (a.opBits + a.r) a.outBits = o
      · simp only [hsel, if_true, beq_self_eq_true, Bool.and_self]
      · simp only [hsel, if_false, beq_self_eq_true, Bool.true_and, beq_eq_false_iff_ne.mpr hsel, Bool.false_eq_true]
    · have h2 : op ≠ "r2o" := fun e => hno (by rw [hco, e])
      have hb : (some op == some "r2owa") = false := beq_eq_false_iff_ne.mpr fun e => h1 (Option.some.inj e)
      rw [hb, Bool.false_and, if_neg Bool.false_ne_true]
      split
      · rename_i heq; exact absurd (Option.some.inj heq) h1
      · rename_i heq; exact absurd (Option.some.inj heq) h2
      · rfl

theorem cycle_r2owa {a : Arch} {prog : List Bits} {s : RtlState} {p : PortsIn} {o : Nat}
    (hex : rtlAtR2owa a prog s.pc o = true) (ho : o < a.m) :
    (Rtl.cycle a prog s p).waitsm = !p.outRecv.getD o false ∧
    ((s.waitsm && p.outRecv.getD o false) = false → (Rtl.cycle a prog s p).pc = s.pc) := by
  obtain ⟨hop, hsel⟩ := Bool.and_eq_true_iff.mp hex
  show (Rtl.mainBlock a (Rtl.fetch prog s.pc) s p).waitsm = _ ∧ (_ → (Rtl.mainBlock a (Rtl.fetch prog s.pc) s p).pc = _)
  rw [mainBlock_r2owa s p (eq_of_beq hop), eq_of_beq hsel, if_pos ho]
  cases hw : s.waitsm <;> cases hr : p.outRecv.getD o false
  · exact ⟨rfl, fun _ => rfl⟩
  · exact ⟨hw, fun _ => rfl⟩
  · exact ⟨rfl, fun _ => rfl⟩
  · exact ⟨rfl, nofun⟩

/-- while the processor is not at an `r2owa` on `o`, `waitsm` is the business of another output -/
theorem cycle_not_r2owa {a : Arch} {prog : List Bits} {s : RtlState} (p : PortsIn) {o : Nat}
    (hex : rtlAtR2owa a prog s.pc o = false) (hinv : WInv a prog s) :
    ((Rtl.cycle a prog s p).waitsm && rtlAtR2owa a prog (Rtl.cycle a prog s p).pc o) = false := by
  cases hwn : (Rtl.cycle a prog s p).waitsm with
  | false => rfl
  | true => rw [Bool.true_and, (cycle_waitsm hinv hwn).2.2, hex]

/-- output port `o` of a processor as the producer of C04's hardware model, one clock.  `hs` is
    shown the same `received` as the processor, and its schedule says whether the processor is at
    its r2owa on `o`. -/
theorem rtl_prod_step (a : Arch) (prog : List Bits) (o : Nat) (ho : o < a.m) (s : RtlState) (p : PortsIn)
    (hs : Hs.Rtl.St) (sch : Hs.Sched) (hO : hs.oVal = s.oVal.getD o false)
    (hW : hs.waitsm = (s.waitsm && rtlAtR2owa a prog s.pc o))
    (hA : hs.atIO = true → rtlAtR2owa a prog s.pc o = true) (hp : sch.p = rtlAtR2owa a prog s.pc o)
    (hR : p.outRecv.getD o false = (!hs.cs.isEmpty && hs.cs.all (·.recv)))
    (hinv : WInv a prog s) (hno : Rtl.curOp a (Rtl.fetch prog s.pc) ≠ some "r2o") :
    (Hs.Rtl.step hs sch).oVal = (Rtl.cycle a prog s p).oVal.getD o false ∧
    (Hs.Rtl.step hs sch).waitsm =
      ((Rtl.cycle a prog s p).waitsm && rtlAtR2owa a prog (Rtl.cycle a prog s p).pc o) ∧
    ((Hs.Rtl.step hs sch).atIO = true → rtlAtR2owa a prog (Rtl.cycle a prog s p).pc o = true) := by
  rw [Hs.Rtl.step_oVal, Hs.Rtl.step_waitsm, Hs.Rtl.step_atIO, hp, ← hR]
  generalize hs.oVal = hsO at hO ⊢
  generalize hs.waitsm = hsW at hW ⊢
  generalize hs.atIO = hsA at hA ⊢
  suffices h : (Rtl.cycle a prog s p).oVal.getD o false =
        (if (hsA || rtlAtR2owa a prog s.pc o) = true then
          (if hsW = false then (if p.outRecv.getD o false = true then false else hsO) else true)
         else (if p.outRecv.getD o false = true then false else hsO)) ∧
      ((Rtl.cycle a prog s p).waitsm && rtlAtR2owa a prog (Rtl.cycle a prog s p).pc o) =
        (if (hsA || rtlAtR2owa a prog s.pc o) = true then
          (if hsW = false then !p.outRecv.getD o false else (if p.outRecv.getD o false = true then false else true))
         else hsW) ∧
      ((if (hsA || rtlAtR2owa a prog s.pc o) = true then
          (if hsW = false then true else if p.outRecv.getD o false = true then false else true)
        else hsA) = true → rtlAtR2owa a prog (Rtl.cycle a prog s p).pc o = true) from ⟨h.1.symm, h.2.1.symm, h.2.2⟩
  rw [cycle_oVal a prog s p o ho, valBlock_at s p o hno, hO, hW]
  cases hex : rtlAtR2owa a prog s.pc o
  · -- busy with another instruction
    cases (show hsA = false from Bool.eq_false_iff.mpr fun h => Bool.false_ne_true (hex.symm.trans (hA h)))
    rw [Bool.and_false]
    exact ⟨rfl, cycle_not_r2owa p hex hinv, nofun⟩
  · -- executing its r2owa on this output
    obtain ⟨hwm, hpc⟩ := cycle_r2owa (p := p) hex ho
    rw [hwm, Bool.or_true, Bool.and_true]
    cases hw : s.waitsm <;> cases hr : p.outRecv.getD o false <;> rw [hw, hr] at hpc
    · exact ⟨rfl, by rw [hpc rfl, hex]; rfl, fun _ => by rw [hpc rfl]; exact hex⟩
    · exact ⟨rfl, rfl, fun _ => by rw [hpc rfl]; exact hex⟩
    · exact ⟨rfl, by rw [hpc rfl, hex]; rfl, fun _ => by rw [hpc rfl]; exact hex⟩
    · exact ⟨rfl, rfl, nofun⟩

theorem recvBlock_at {a : Arch} {prog : List Bits} (s : RtlState) (p : PortsIn) (k : Nat)
    (hno : Rtl.curOp a (Rtl.fetch prog s.pc) ≠ some "i2r") :
    Rtl.recvBlock a (Rtl.fetch prog s.pc) s p k =
      if rtlAtI2rw a prog s.pc k = true then p.inValid.getD k false
      else (if p.inValid.getD k false = true then s.iRecv.getD k false else false) := by
  unfold Rtl.recvBlock rtlAtI2rw
  cases hco : Rtl.curOp a (Rtl.fetch prog s.pc) with
  | none => rfl
  | some op =>
    by_cases h1 : op = "i2rw"
    · subst h1
      by_cases hsel : Rtl.part (Rtl.fetch prog s.pc) a.maxWord (a.opBits + a.r) a.inBits = k
      · simp only [hsel, if_true, beq_self_eq_true, Bool.and_self]
      · simp only [hsel, if_false, beq_self_eq_true, Bool.true_and, beq_eq_false_iff_ne.mpr hsel, Bool.false_eq_true]
    · have h2 : op ≠ "i2r" := fun e => hno (by rw [hco, e])
      have hb : (some op == some "i2rw") = false := beq_eq_false_iff_ne.mpr fun e => h1 (Option.some.inj e)
      rw [hb, Bool.false_and, if_neg Bool.false_ne_true]
      split
      · rename_i heq; exact absurd (Option.some.inj heq) h1
      · rename_i heq; exact absurd (Option.some.inj heq) h2
      · rfl

theorem cycle_pc_i2rw_wait {a : Arch} {prog : List Bits} {s : RtlState} {p : PortsIn} {k : Nat}
    (hex : rtlAtI2rw a prog s.pc k = true) (hnt : (p.inValid.getD k false && !s.iRecv.getD k false) = false) :
    (Rtl.cycle a prog s p).pc = s.pc := by
  obtain ⟨hop, hsel⟩ := Bool.and_eq_true_iff.mp hex
  show (Rtl.mainBlock a (Rtl.fetch prog s.pc) s p).pc = s.pc
  rw [mainBlock_i2rw s p (eq_of_beq hop), eq_of_beq hsel]
  split
  · rename_i hc
    rw [hc.2.1, hc.2.2] at hnt
    cases hnt
  · rfl

/-- input port `k` of a processor as a consumer of C04's hardware model, one clock -/
theorem rtl_cons_step (a : Arch) (prog : List Bits) (k : Nat) (hk : k < a.n) (s : RtlState) (p : PortsIn)
    (hc : Hs.Rtl.Cons) (d : Nat) (hrecv : hc.recv = s.iRecv.getD k false)
    (hat : hc.atIO = true → rtlAtI2rw a prog s.pc k = true)
    (hno : Rtl.curOp a (Rtl.fetch prog s.pc) ≠ some "i2r") :
    let V := p.inValid.getD k false
    let hc' := Hs.Rtl.cstep V d (rtlAtI2rw a prog s.pc k) hc
    let s' := Rtl.cycle a prog s p
    hc'.recv = s'.iRecv.getD k false ∧ (hc'.atIO = true → rtlAtI2rw a prog s'.pc k = true) := by
  obtain ⟨a0, r0, g0⟩ := hc
  cases (show r0 = _ from hrecv)
  dsimp only
  rw [cycle_iRecv a prog s p k hk, recvBlock_at s p k hno]
  unfold Hs.Rtl.cstep
  dsimp only
  cases hex : rtlAtI2rw a prog s.pc k
  · -- busy with another instruction
    cases (show a0 = false from Bool.eq_false_iff.mpr fun h => Bool.false_ne_true (hex.symm.trans (hat h)))
    exact ⟨rfl, nofun⟩
  · -- executing its i2rw on this input: the pc moves on only if the value is captured
    cases a0 <;> cases hnt : (p.inValid.getD k false && !s.iRecv.getD k false)
    · exact ⟨rfl, fun _ => by rw [cycle_pc_i2rw_wait hex hnt]; exact hex⟩
    · exact ⟨rfl, nofun⟩
    · exact ⟨rfl, fun _ => by rw [cycle_pc_i2rw_wait hex hnt]; exact hex⟩
    · exact ⟨rfl, nofun⟩

def hprocOf (h : HwState) (p : Nat) : RtlState := h.procs.getD p {}

/-- internal output `j` is output `o` of processor `q`, and only processor inputs are bonded to it -/
structure RtlProcBond (m : Machine) (j q o : Nat) : Prop where
  drv : m.topo.iout[j]? = some ⟨3, q, o⟩
  cons : ∀ b ∈ Bond.consumers m.topo j, b.kind = 2

/-- the handshake opcodes are the only IO opcodes of the machine (`r2o` / `i2r` write the same
    valid / recv registers without any protocol) -/
def HandshakeOnly (m : Machine) : Prop :=
  ∀ (p : Nat) (a : Arch), m.archs[p]? = some a → "r2o" ∉ a.ops ∧ "i2r" ∉ a.ops

def RtlBondRel (m : Machine) (j q o : Nat) (h : HwState) (hs : Hs.Rtl.St) : Prop :=
  hs.oVal = (hprocOf h q).oVal.getD o false ∧
  hs.waitsm = ((hprocOf h q).waitsm && rtlAtR2owa (archOf m q) (progOf m q) (hprocOf h q).pc o) ∧
  (hs.atIO = true → rtlAtR2owa (archOf m q) (progOf m q) (hprocOf h q).pc o = true) ∧
  hs.cs.length = (Bond.consumers m.topo j).length ∧
  ∀ (n : Nat) (b : Topology.Bond), (Bond.consumers m.topo j)[n]? = some b →
    (hs.cs.getD n {}).recv = (hprocOf h b.res).iRecv.getD b.ext false ∧
    ((hs.cs.getD n {}).atIO = true → rtlAtI2rw (archOf m b.res) (progOf m b.res) (hprocOf h b.res).pc b.ext = true)

def rtlBondSched (m : Machine) (j q o : Nat) (h : HwState) : Hs.Sched :=
  { p := rtlAtR2owa (archOf m q) (progOf m q) (hprocOf h q).pc o
    c := (Bond.consumers m.topo j).map fun b =>
      rtlAtI2rw (archOf m b.res) (progOf m b.res) (hprocOf h b.res).pc b.ext }

structure HwOk (m : Machine) (h : HwState) : Prop where
  len : h.procs.length = m.archs.length
  winv : ∀ (p : Nat) s a prog, h.procs[p]? = some s → m.archs[p]? = some a → m.progs[p]? = some prog → WInv a prog s

theorem curOp_mem {a : Arch} {cur : Nat} {op : String} (h : Rtl.curOp a cur = some op) : op ∈ a.ops :=
  List.mem_of_getElem? h

theorem findIdx?_of_nodup {l : List Topology.Bond} (hn : l.Nodup) {j : Nat} {b : Topology.Bond} (hj : l[j]? = some b) :
    l.findIdx? (· = b) = some j := by
  rw [List.findIdx?_eq_some_iff_getElem]
  have hlt : j < l.length := (List.getElem?_eq_some_iff.mp hj).1
  refine ⟨hlt, ?_, ?_⟩
  · have := (List.getElem?_eq_some_iff.mp hj).2
    simp [this]
  · intro j' hj'
    simp only [decide_eq_true_eq]
    intro e
    have h1 : l[j']? = some b := by rw [List.getElem?_eq_getElem (Nat.lt_trans hj' hlt), e]
    have := idx_unique hn h1 hj
    omega

theorem rtlCycle_get {m : Machine} {h : HwState} {e : EnvIn} {p : Nat} {s : RtlState} {a : Arch} {prog : List Bits}
    (hs : h.procs[p]? = some s) (ha : m.archs[p]? = some a) (hp : m.progs[p]? = some prog) :
    (rtlCycle m h e).procs[p]? = some (Rtl.cycle a prog s (portsIn m.topo h e p a)) := by
  unfold rtlCycle
  simp only [List.getElem?_map, List.getElem?_zipIdx, hs, Option.map_some, Nat.zero_add, ha, hp]

theorem rtlCycle_ok {m : Machine} {h : HwState} (e : EnvIn) (hok : HwOk m h) : HwOk m (rtlCycle m h e) := by
  constructor
  · unfold rtlCycle; simp [hok.len]
  · intro p s' a prog hs' ha hp
    have hlt : p < h.procs.length := by
      rw [hok.len]; exact (List.getElem?_eq_some_iff.mp ha).1
    rw [rtlCycle_get (List.getElem?_eq_getElem hlt) ha hp] at hs'
    cases hs'
    exact winv_cycle a prog _ _ (hok.winv p _ a prog (List.getElem?_eq_getElem hlt) ha hp)

theorem rtlCycle_at {m : Machine} (hm : MachineWF m) {h : HwState} (hok : HwOk m h) (e : EnvIn) {p : Nat}
    {nm : Nat × Nat} (hp : m.topo.procs[p]? = some nm) :
    hprocOf (rtlCycle m h e) p =
        Rtl.cycle (archOf m p) (progOf m p) (hprocOf h p) (portsIn m.topo h e p (archOf m p)) ∧
      WInv (archOf m p) (progOf m p) (hprocOf h p) ∧ m.archs[p]? = some (archOf m p) ∧
      nm = ((archOf m p).n, (archOf m p).m) := by
  obtain ⟨s, a, prog, hs, ha, hpr, hnm⟩ := proc_of_endpoint hm hok.len hp
  rw [show archOf m p = a from getD_of_getElem? ha, show progOf m p = prog from getD_of_getElem? hpr,
    show hprocOf h p = s from getD_of_getElem? hs]
  exact ⟨getD_of_getElem? (rtlCycle_get hs ha hpr), hok.winv p s a prog hs ha hpr, ha, hnm⟩

theorem portsIn_outRecv {t : Topo} (hwf : WF t) (h : HwState) (e : EnvIn) {p o j : Nat} {a : Arch}
    (hd : t.iout[j]? = some ⟨3, p, o⟩) (ho : o < a.m) :
    (portsIn t h e p a).outRecv.getD o false = hwRecv t h e j := by
  unfold portsIn
  simp only [List.getD_eq_getElem?_getD, List.getElem?_map, List.getElem?_range ho, Option.map_some, Option.getD_some]
  rw [show idxOfOut t ⟨3, p, o⟩ = some j from findIdx?_of_nodup hwf.iout_nodup hd]

theorem portsIn_inValid {t : Topo} (h : HwState) (e : EnvIn) {p k : Nat} {a : Arch} {d : Topology.Bond}
    (hk : k < a.n) (hd : driverOf t ⟨2, p, k⟩ = some d) :
    (portsIn t h e p a).inValid.getD k false = hwValid h e d := by
  unfold portsIn
  simp only [List.getD_eq_getElem?_getD, List.getElem?_map, List.getElem?_range hk, Option.map_some, Option.getD_some]
  rw [hd]

theorem hwSinkRecv_proc (h : HwState) (e : EnvIn) {b : Topology.Bond} (hk : b.kind = 2) :
    hwSinkRecv h e b = (hprocOf h b.res).iRecv.getD b.ext false := by
  unfold hwSinkRecv
  rw [if_neg (by rw [hk]; decide), if_pos hk]
  rfl

/-- **projection of one clock of the hardware composition onto one step of C04's bond model** -/
theorem rtl_bond_projects {m : Machine} (hm : MachineWF m) (hho : HandshakeOnly m) {j q o : Nat}
    (hb : RtlProcBond m j q o) {h : HwState} (e : EnvIn) (hok : HwOk m h)
    {hs : Hs.Rtl.St} (hrel : RtlBondRel m j q o h hs) :
    RtlBondRel m j q o (rtlCycle m h e) (Hs.Rtl.step hs (rtlBondSched m j q o h)) := by
  obtain ⟨hO, hW, hA, hcl, hcons⟩ := hrel
  -- the producer: shown the conjunction of the recv lines that `hs` holds
  obtain ⟨nmq, hpq, hoq⟩ := out_endpoint hm.wf hb.drv
  obtain ⟨hcyc, hwinv, haq, hnm⟩ := rtlCycle_at hm hok e hpq
  rw [hnm] at hoq
  have hrin : (portsIn m.topo h e q (archOf m q)).outRecv.getD o false = (!hs.cs.isEmpty && hs.cs.all (·.recv)) :=
    (portsIn_outRecv hm.wf h e hb.drv hoq).trans <| Hs.received_congr hcl.symm fun n b x hbn hx => by
      rw [hwSinkRecv_proc h e (hb.cons b (List.mem_of_getElem? hbn)), ← (hcons n b hbn).1, getD_of_getElem? hx]
  obtain ⟨p1, p2, p3⟩ := rtl_prod_step (archOf m q) (progOf m q) o hoq (hprocOf h q) (portsIn m.topo h e q (archOf m q))
    hs (rtlBondSched m j q o h) hO hW hA rfl hrin hwinv fun hc => (hho q _ haq).1 (curOp_mem hc)
  rw [← hcyc] at p1 p2 p3
  refine ⟨p1, p2, p3, ?_, fun n b hbn => ?_⟩
  · rw [Hs.Rtl.step_cs, Hs.length_stepAll]; exact hcl
  · -- a consumer: shown the valid line that `hs` holds
    have hbm := List.mem_of_getElem? hbn
    have hbond := (Bond.mem_consumers hm.wf hb.drv).mp hbm
    have hbi : b ∈ m.topo.iin := bond_sink_mem hbond
    have hk2 := hb.cons b hbm
    have heta : b = ⟨2, b.res, b.ext⟩ := by rw [← hk2]
    obtain ⟨nmc, hpc, hk⟩ := in_endpoint hm.wf hbi hk2
    obtain ⟨hcyc, _, hac, hnm⟩ := rtlCycle_at hm hok e hpc
    rw [hnm] at hk
    have hV : (portsIn m.topo h e b.res (archOf m b.res)).inValid.getD b.ext false = hs.oVal :=
      (portsIn_inValid (d := ⟨3, q, o⟩) h e hk (heta ▸ (Bond.driverOf_iff_bond hm.wf hbi).mpr hbond)).trans hO.symm
    obtain ⟨hr0, ha0⟩ := hcons n b hbn
    obtain ⟨c1, c2⟩ := rtl_cons_step _ _ b.ext hk _ (portsIn m.topo h e b.res (archOf m b.res)) _ hs.auxo hr0 ha0
      fun hc => (hho b.res _ hac).2 (curOp_mem hc)
    rw [hV] at c1 c2
    have hn : n < hs.cs.length := by rw [hcl]; exact (List.getElem?_eq_some_iff.mp hbn).1
    have hget : (Hs.Rtl.step hs (rtlBondSched m j q o h)).cs.getD n {} =
        Hs.Rtl.cstep hs.oVal hs.auxo
          (rtlAtI2rw (archOf m b.res) (progOf m b.res) (hprocOf h b.res).pc b.ext) (hs.cs.getD n {}) := by
      rw [Hs.Rtl.step_cs, Hs.getD_stepAll _ _ _ hn, show (rtlBondSched m j q o h).c.getD n false = _ from
        getD_of_getElem? (by rw [rtlBondSched, List.getElem?_map, hbn]; rfl)]
    rw [hget, hcyc]
    exact ⟨c1, c2⟩

/-- the hardware composition driven by an arbitrary sequence of external stimuli (one per clock) -/
def runHw (m : Machine) : List EnvIn → HwState → HwState
  | [], h => h
  | e :: es, h => runHw m es (rtlCycle m h e)

theorem hwInit_ok (m : Machine) : HwOk m (hwInit m) := by
  refine ⟨List.length_map .., fun p s a prog hs ha _ => ?_⟩
  rw [show (hwInit m).procs[p]? = (m.archs[p]?).map Rtl.reset from List.getElem?_map .., ha] at hs
  cases hs
  exact winv_reset a prog

theorem hprocOf_init (m : Machine) (c k : Nat) :
    (hprocOf (hwInit m) c).oVal.getD k false = false ∧ (hprocOf (hwInit m) c).iRecv.getD k false = false ∧
    (hprocOf (hwInit m) c).waitsm = false := by
  have h : hprocOf (hwInit m) c = ((m.archs[c]?).map Rtl.reset).getD {} := by
    show (List.map Rtl.reset m.archs).getD c {} = _
    rw [List.getD_eq_getElem?_getD, List.getElem?_map]
  rw [h]
  cases m.archs[c]? with
  | none => exact ⟨rfl, rfl, rfl⟩
  | some a => exact ⟨getD_replicate_self .., getD_replicate_self .., rfl⟩

theorem hwInit_rel (m : Machine) (j q o : Nat) :
    RtlBondRel m j q o (hwInit m) (Hs.Rtl.init (Bond.consumers m.topo j).length) := by
  refine ⟨(hprocOf_init m q o).1.symm, ?_, nofun, List.length_replicate, fun n b _ => ?_⟩
  · rw [(hprocOf_init m q o).2.2]; rfl
  · rw [show (Hs.Rtl.init _).cs.getD n {} = {} from getD_replicate_self ..]
    exact ⟨(hprocOf_init m b.res b.ext).2.1.symm, nofun⟩

/-- **every run of the hardware composition, under any external stimulus, projects bond by bond
    onto a run of C04's hardware handshake model** -/
theorem rtl_bond_run_projects {m : Machine} (hm : MachineWF m) (hho : HandshakeOnly m) {j q o : Nat}
    (hb : RtlProcBond m j q o) (es : List EnvIn) (h : HwState) (hs : Hs.Rtl.St) (hok : HwOk m h)
    (hrel : RtlBondRel m j q o h hs) :
    ∃ schs, schs.length = es.length ∧ HwOk m (runHw m es h) ∧ RtlBondRel m j q o (runHw m es h) (Hs.Rtl.run hs schs) := by
  induction es generalizing h hs with
  | nil => exact ⟨[], rfl, hok, hrel⟩
  | cons e es ih =>
    have hrel1 := rtl_bond_projects hm hho hb e hok hrel
    obtain ⟨schs, hl, hok', hrel'⟩ := ih _ _ (rtlCycle_ok e hok) hrel1
    exact ⟨rtlBondSched m j q o h :: schs, by simp [hl], hok', by simpa [Hs.Rtl.run, runHw] using hrel'⟩

theorem runRtl_is_runHw (m : Machine) (spec : EnvSpec) (n : Nat) (x : HwState × EnvSt × Bool) :
    ∃ es, es.length = n ∧ (runRtl m spec n x).1 = runHw m es x.1 := by
  induction n generalizing x with
  | zero => exact ⟨[], rfl, rfl⟩
  | succ n ih =>
    obtain ⟨h, env, hz⟩ := x
    simp only [runRtl]
    obtain ⟨es, hl, hr⟩ := ih (rtlCycle m h (envDrive (envStep spec env (observeHw m.topo h (envDrive env)))),
      envStep spec env (observeHw m.topo h (envDrive env)),
      hz || bmRtlHazard m h (envDrive (envStep spec env (observeHw m.topo h (envDrive env)))))
    exact ⟨envDrive (envStep spec env (observeHw m.topo h (envDrive env))) :: es, by simp [hl], by rw [hr]; rfl⟩

end BMV.Bm
