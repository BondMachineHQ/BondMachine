/-
  C18, the fragment results: name resolution leaves no identifier behind (`resolveExpr_closed`); on the
  `simple` fragment width computation and evaluation return a value (`selfW_ok`, `evalC_ok`); `simple`
  expressions are closed.  In front of them, the few facts about the `Except` monad and `for … in` steps
  that the other Vlog proof modules share.
-/
import BMV.Vlog.Check
namespace BMV.Vlog

/-! ## facts about `R` and loop steps that the other Vlog proof modules share -/

theorem bind_ok {α β : Type} {x : R α} {f : α → R β} {v : β} (h : (x >>= f) = .ok v) :
    ∃ a, x = .ok a ∧ f a = .ok v := by
  cases x with
  | error e => simp [bind, Except.bind] at h
  | ok a => exact ⟨a, rfl, h⟩

theorem band {a b : Bool} (ha : a = true) (hb : b = true) : (a && b) = true := by rw [ha, hb]; rfl

/-- the accumulator a `for … in` step hands on, whether it breaks or continues -/
def stepVal {β : Type} : ForInStep β → β
  | .done b => b
  | .yield b => b

theorem ok_pure {α : Type} (a : α) : ∃ v, (pure a : R α) = .ok v := ⟨a, rfl⟩

theorem ok_bind {α β : Type} {x : R α} {f : α → R β} (hx : ∃ a, x = .ok a) (hf : ∀ a, ∃ b, f a = .ok b) :
    ∃ b, (x >>= f) = .ok b := by
  obtain ⟨a, rfl⟩ := hx
  exact hf a

mutual
theorem resolveExpr_closed (sc : Scope) : ∀ (e e' : Expr), resolveExpr sc e = .ok e' → closed e' = true
  | .num w v, e', h => by
    simp only [resolveExpr, pure, Except.pure, Except.ok.injEq] at h; subst h; rfl
  | .sig i, e', h => by
    simp only [resolveExpr, pure, Except.pure, Except.ok.injEq] at h; subst h; rfl
  | .id n, e', h => by
    unfold resolveExpr at h
    split at h
    · simp only [pure, Except.pure, Except.ok.injEq] at h; subst h; rfl
    · simp only [pure, Except.pure, Except.ok.injEq] at h; subst h; rfl
    · simp [throw, throwThe, MonadExceptOf.throw] at h
  | .idx b i, e', h => by
    unfold resolveExpr at h
    obtain ⟨b', hb, h⟩ := bind_ok h
    obtain ⟨i', hi, h⟩ := bind_ok h
    simp only [pure, Except.pure, Except.ok.injEq] at h; subst h
    simp [closed, resolveExpr_closed sc b b' hb, resolveExpr_closed sc i i' hi]
  | .rng b m l, e', h => by
    unfold resolveExpr at h
    obtain ⟨m', _, h⟩ := bind_ok h
    obtain ⟨mv, _, h⟩ := bind_ok h
    obtain ⟨l', _, h⟩ := bind_ok h
    obtain ⟨lv, _, h⟩ := bind_ok h
    obtain ⟨b', hb, h⟩ := bind_ok h
    simp only [pure, Except.pure, Except.ok.injEq] at h; subst h
    simp [closed, resolveExpr_closed sc b b' hb]
  | .ipart b s w up, e', h => by
    unfold resolveExpr at h
    obtain ⟨w', _, h⟩ := bind_ok h
    obtain ⟨wv, _, h⟩ := bind_ok h
    obtain ⟨b', hb, h⟩ := bind_ok h
    obtain ⟨s', hs, h⟩ := bind_ok h
    simp only [pure, Except.pure, Except.ok.injEq] at h; subst h
    simp [closed, resolveExpr_closed sc b b' hb, resolveExpr_closed sc s s' hs]
  | .cat es, e', h => by
    unfold resolveExpr at h
    obtain ⟨es', hes, h⟩ := bind_ok h
    simp only [pure, Except.pure, Except.ok.injEq] at h; subst h
    simp [closed, resolveExprs_closed sc es es' hes]
  | .rep n es, e', h => by
    unfold resolveExpr at h
    obtain ⟨n', _, h⟩ := bind_ok h
    obtain ⟨nv, _, h⟩ := bind_ok h
    obtain ⟨es', hes, h⟩ := bind_ok h
    simp only [pure, Except.pure, Except.ok.injEq] at h; subst h
    simp [closed, resolveExprs_closed sc es es' hes]
  | .un op e, e', h => by
    unfold resolveExpr at h
    obtain ⟨x, hx, h⟩ := bind_ok h
    simp only [pure, Except.pure, Except.ok.injEq] at h; subst h
    simp [closed, resolveExpr_closed sc e x hx]
  | .bin op a b, e', h => by
    unfold resolveExpr at h
    obtain ⟨a', ha, h⟩ := bind_ok h
    obtain ⟨b', hb, h⟩ := bind_ok h
    simp only [pure, Except.pure, Except.ok.injEq] at h; subst h
    simp [closed, resolveExpr_closed sc a a' ha, resolveExpr_closed sc b b' hb]
  | .cond c a b, e', h => by
    unfold resolveExpr at h
    obtain ⟨c', hc, h⟩ := bind_ok h
    obtain ⟨a', ha, h⟩ := bind_ok h
    obtain ⟨b', hb, h⟩ := bind_ok h
    simp only [pure, Except.pure, Except.ok.injEq] at h; subst h
    simp [closed, resolveExpr_closed sc c c' hc, resolveExpr_closed sc a a' ha, resolveExpr_closed sc b b' hb]
theorem resolveExprs_closed (sc : Scope) : ∀ (es es' : List Expr), resolveExprs sc es = .ok es' → closedL es' = true
  | [], es', h => by
    simp only [resolveExprs, pure, Except.pure, Except.ok.injEq] at h; subst h; rfl
  | e :: es, es', h => by
    unfold resolveExprs at h
    obtain ⟨x, hx, h⟩ := bind_ok h
    obtain ⟨xs, hxs, h⟩ := bind_ok h
    simp only [pure, Except.pure, Except.ok.injEq] at h; subst h
    simp [closedL, resolveExpr_closed sc e x hx, resolveExprs_closed sc es xs hxs]
end

theorem getSig_ok {sigs : Array Sig} {i : Nat} (h : okSig sigs i = true) :
    ∃ s, sigs[i]? = some s ∧ getSig sigs i = .ok s ∧ ¬ s.depth > 0 := by
  unfold okSig at h
  unfold getSig
  split at h
  · next s hs => exact ⟨s, hs, by rw [hs]; rfl, by simpa using h⟩
  · cases h

mutual
theorem selfW_ok (sigs : Array Sig) : ∀ (e : Expr), simple sigs e = true → ∃ w, selfW sigs e = .ok w
  | .num (some _) _, _ | .num none _, _ => ok_pure _
  | .sig i, h => by
    obtain ⟨s, _, hs, hd⟩ := getSig_ok h
    unfold selfW
    rw [hs]
    exact ⟨s.width, if_neg hd⟩
  | .cat es, h => selfWL_ok sigs es h
  | .rep (.num nw nv) es, h => by
    unfold selfW
    exact ok_bind (ok_pure _) fun _ => ok_bind (selfWL_ok sigs es h) fun _ => ok_pure _
  | .un op e, h => by
    have hE := selfW_ok sigs e h
    unfold selfW
    cases op
    case bnot | neg | plus => exact hE
    all_goals exact ok_pure _
  | .bin op a b, h => by
    simp only [simple, Bool.and_eq_true] at h
    have hA := selfW_ok sigs a h.1.2
    have hB := selfW_ok sigs b h.2
    unfold selfW
    cases op
    case shl | shr => exact hA
    case land | lor | eq | ne | lt | gt | le | ge => exact ok_pure _
    all_goals exact ok_bind hA fun _ => ok_bind hB fun _ => ok_pure _
  | .cond c a b, h => by
    simp only [simple, Bool.and_eq_true] at h
    unfold selfW
    exact ok_bind (selfW_ok sigs a h.1.2) fun _ => ok_bind (selfW_ok sigs b h.2) fun _ => ok_pure _
theorem selfWL_ok (sigs : Array Sig) : ∀ (es : List Expr), simpleL sigs es = true → ∃ w, selfWL sigs es = .ok w
  | [], _ => ok_pure _
  | e :: es, h => by
    simp only [simpleL, Bool.and_eq_true] at h
    unfold selfWL
    exact ok_bind (selfW_ok sigs e h.1) fun _ => ok_bind (selfWL_ok sigs es h.2) fun _ => ok_pure _
end

theorem rdWord_ok (sigs : Array Sig) (st : State) (hst : StateOk sigs st) (i : Nat) (s : Sig) (hs : sigs[i]? = some s) :
    ∃ v, rdWord st sigs i 0 = .ok v := by
  obtain ⟨a, v, ha, hv⟩ := hst i s hs
  unfold rdWord
  rw [ha]; dsimp only; rw [hv]
  exact ok_pure v

mutual
theorem evalC_ok (sigs : Array Sig) (st : State) (hst : StateOk sigs st) :
    ∀ (e : Expr), simple sigs e = true → ∀ (W : Nat), ∃ v, evalC sigs st W e = .ok v
  | .num (some _) _, _, _ | .num none _, _, _ => ok_pure _
  | .sig i, h, _ => by
    obtain ⟨s, hi, hs, hd⟩ := getSig_ok h
    unfold evalC
    rw [hs]
    show ∃ v, (if s.depth > 0 then _ else rdWord st sigs i 0) = .ok v
    rw [if_neg hd]
    exact rdWord_ok sigs st hst i s hi
  | .cat es, h, _ => by
    unfold evalC
    exact ok_bind (evalCat_ok sigs st hst es h) fun _ => ok_pure _
  | .rep (.num nw nv) es, h, _ => by
    unfold evalC
    exact ok_bind (ok_pure _) fun _ => ok_bind (evalCat_ok sigs st hst es h) fun _ => ok_pure _
  | .un op e, h, W => by
    have hS := selfW_ok sigs e h
    have hE := evalC_ok sigs st hst e h
    unfold evalC
    cases op
    case plus => exact hE W
    case bnot | neg => exact ok_bind (hE W) fun _ => ok_pure _
    all_goals exact ok_bind hS fun w => ok_bind (hE w) fun _ => ok_pure _
  | .bin op a b, h, W => by
    simp only [simple, Bool.and_eq_true] at h
    have hSA := selfW_ok sigs a h.1.2
    have hSB := selfW_ok sigs b h.2
    have hA := evalC_ok sigs st hst a h.1.2
    have hB := evalC_ok sigs st hst b h.2
    unfold evalC
    cases op
    case shl | shr => exact ok_bind (hA W) fun _ => ok_bind hSB fun w => ok_bind (hB w) fun _ => ok_pure _
    case land | lor =>
      exact ok_bind hSA fun w => ok_bind (hA w) fun _ => ok_bind hSB fun w => ok_bind (hB w) fun _ => ok_pure _
    case eq | ne | lt | gt | le | ge =>
      exact ok_bind hSA fun _ => ok_bind hSB fun _ => ok_bind (hA _) fun _ => ok_bind (hB _) fun _ => ok_pure _
    all_goals exact ok_bind (hA W) fun _ => ok_bind (hB W) fun _ => ok_pure _
  | .cond c a b, h, W => by
    simp only [simple, Bool.and_eq_true] at h
    unfold evalC
    refine ok_bind (selfW_ok sigs c h.1.1) fun w => ok_bind (evalC_ok sigs st hst c h.1.1 w) fun cv => ?_
    split
    · exact evalC_ok sigs st hst a h.1.2 W
    · exact evalC_ok sigs st hst b h.2 W
theorem evalCat_ok (sigs : Array Sig) (st : State) (hst : StateOk sigs st) :
    ∀ (es : List Expr), simpleL sigs es = true → ∃ p, evalCat sigs st es = .ok p
  | [], _ => ok_pure _
  | e :: es, h => by
    simp only [simpleL, Bool.and_eq_true] at h
    unfold evalCat
    refine ok_bind (selfW_ok sigs e h.1) fun w => ok_bind (evalC_ok sigs st hst e h.1 w) fun _ => ?_
    exact ok_bind (evalCat_ok sigs st hst es h.2) fun _ => ok_pure _
end

mutual
theorem simple_closed (sigs : Array Sig) : ∀ (e : Expr), simple sigs e = true → closed e = true
  | .num _ _, _ => rfl
  | .sig _, _ => rfl
  | .cat es, h => simpleL_closedL sigs es h
  | .rep (.num _ _) es, h => simpleL_closedL sigs es h
  | .un _ e, h => simple_closed sigs e h
  | .bin _ a b, h =>
    have ⟨h, hb⟩ := Bool.and_eq_true_iff.mp h
    Bool.and_eq_true_iff.mpr ⟨simple_closed sigs a (Bool.and_eq_true_iff.mp h).2, simple_closed sigs b hb⟩
  | .cond c a b, h =>
    have ⟨h, hb⟩ := Bool.and_eq_true_iff.mp h
    have ⟨hc, ha⟩ := Bool.and_eq_true_iff.mp h
    Bool.and_eq_true_iff.mpr
      ⟨Bool.and_eq_true_iff.mpr ⟨simple_closed sigs c hc, simple_closed sigs a ha⟩, simple_closed sigs b hb⟩
theorem simpleL_closedL (sigs : Array Sig) : ∀ (es : List Expr), simpleL sigs es = true → closedL es = true
  | [], _ => rfl
  | e :: es, h =>
    have ⟨he, hes⟩ := Bool.and_eq_true_iff.mp h
    Bool.and_eq_true_iff.mpr ⟨simple_closed sigs e he, simpleL_closedL sigs es hes⟩
end

end BMV.Vlog
