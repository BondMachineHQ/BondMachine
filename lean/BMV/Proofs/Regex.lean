/-
  Lemmas about BMV.Regex: the representative of a code point behaves like the code point under
  `deriv` (`class_rep`), a set of state pairs that passes `closedCheck` contains no pair with a
  common word (`closed_sound`), hence `verdict = .disjoint` is sound and `verdict = .overlap w`
  carries a real common word; a search that finishes always returns a set that passes the check
  (`explore_passes_check`); table forms (`allPairsDisjoint_sound`, `accepting_le_one`), and the
  form in which the kernel evaluates a table (`allPairsDisjoint_iff_mask`: the search alone).
  Not proved here: that `matchStr` (derivatives with smart constructors) computes the textbook
  denotational language of the expression — `matchStr` is the model's definition of the language and
  is tied to Go's regexp by the correspondence run.
-/
import BMV.Regex

namespace BMV.Regex
open Regex

theorem derivs_empty (s : List Nat) : derivs s .empty = .empty := by
  induction s with
  | nil => rfl
  | cons c t ih => exact ih

theorem matchStr_empty (s : List Nat) : matchStr .empty s = false := by
  rw [matchStr, derivs_empty]; rfl

theorem matchStr_nil (r : Regex) : matchStr r [] = nullable r := rfl

theorem matchStr_cons (r : Regex) (c : Nat) (t : List Nat) :
    matchStr r (c :: t) = matchStr (deriv c r) t := rfl

theorem repGo_spec (c : Nat) : ∀ (bs : List Nat) (acc : Nat), acc ≤ c →
    repGo c acc bs ≤ c ∧ acc ≤ repGo c acc bs ∧ (∀ b ∈ bs, b ≤ c → b ≤ repGo c acc bs) ∧
      repGo c acc bs ∈ acc :: bs := by
  intro bs
  induction bs with
  | nil => exact fun acc h => ⟨h, Nat.le_refl _, (fun _ hb => nomatch hb), List.mem_singleton.mpr rfl⟩
  | cons b bs ih =>
    intro acc h
    simp only [repGo, Bool.and_eq_true, Nat.ble_eq, List.mem_cons, forall_eq_or_imp]
    split
    next hb =>
      obtain ⟨h1, h2, h3, h4⟩ := ih b hb.1
      exact ⟨h1, Nat.le_trans hb.2 h2, ⟨fun _ => h2, h3⟩, Or.inr (List.mem_cons.mp h4)⟩
    next hb =>
      obtain ⟨h1, h2, h3, h4⟩ := ih acc h
      exact ⟨h1, h2, ⟨fun hbc => by omega, h3⟩, (List.mem_cons.mp h4).imp_right Or.inr⟩

theorem repOf_le (bs : List Nat) (c : Nat) : repOf bs c ≤ c := (repGo_spec c bs 0 (Nat.zero_le _)).1

theorem repOf_ge (bs : List Nat) (c b : Nat) (h : b ∈ bs) (hb : b ≤ c) : b ≤ repOf bs c :=
  (repGo_spec c bs 0 (Nat.zero_le _)).2.2.1 b h hb

theorem repOf_mem (bs : List Nat) (c : Nat) : repOf bs c ∈ 0 :: bs :=
  (repGo_spec c bs 0 (Nat.zero_le _)).2.2.2

def SameSide (rs : List (Nat × Nat)) (c c' : Nat) : Prop :=
  ∀ p ∈ rs, (p.1 ≤ c ↔ p.1 ≤ c') ∧ (c ≤ p.2 ↔ c' ≤ p.2)

theorem SameSide.mono {rs rs' : List (Nat × Nat)} {c c' : Nat} (h : SameSide rs c c')
    (hs : ∀ p ∈ rs', p ∈ rs) : SameSide rs' c c' := fun p hp => h p (hs p hp)

theorem inRanges_congr {c c' : Nat} : ∀ {rs : List (Nat × Nat)}, SameSide rs c c' →
    inRanges c rs = inRanges c' rs
  | [], _ => rfl
  | (lo, hi) :: rs, h => by
    obtain ⟨⟨h1, h2⟩, ht⟩ := List.forall_mem_cons.mp h
    rw [inRanges, inRanges, inRanges_congr ht, Bool.eq_iff_iff]
    simp only [Bool.or_eq_true, Bool.and_eq_true, Nat.ble_eq, h1, h2]

theorem deriv_congr {c c' : Nat} : ∀ {r : Regex}, SameSide (atomRanges r) c c' →
    deriv c r = deriv c' r := by
  intro r
  induction r with
  | empty | eps => intro _; rfl
  | cls n rs => intro h; rw [deriv, deriv, classHas, classHas, inRanges_congr (rs := rs) h]
  | cat a b iha ihb =>
    intro h
    obtain ⟨ha, hb⟩ := List.forall_mem_append.mp h
    simp only [deriv, iha ha, ihb hb]
  | alt a b iha ihb =>
    intro h
    obtain ⟨ha, hb⟩ := List.forall_mem_append.mp h
    simp only [deriv, iha ha, ihb hb]
  | star a iha => intro h; simp only [deriv, iha h]

theorem mem_bounds {rs : List (Nat × Nat)} {p : Nat × Nat} (h : p ∈ rs) :
    p.1 ∈ bounds rs ∧ p.2 + 1 ∈ bounds rs := by
  induction rs with
  | nil => cases h
  | cons q rs ih =>
    simp only [bounds, List.mem_cons]
    rcases List.mem_cons.mp h with rfl | h
    · exact ⟨Or.inl rfl, Or.inr (Or.inl rfl)⟩
    · exact ⟨Or.inr (Or.inr (ih h).1), Or.inr (Or.inr (ih h).2)⟩

/-- the representative is the largest boundary `≤ c`, and both `lo` and `hi + 1` of a range are
    boundaries -/
theorem rep_sameSide (rs : List (Nat × Nat)) (c : Nat) : SameSide rs c (repOf (bounds rs) c) := by
  intro p hp
  have hle := repOf_le (bounds rs) c
  have hlo := repOf_ge _ c _ (mem_bounds hp).1
  have hhi := repOf_ge _ c _ (mem_bounds hp).2
  constructor <;> constructor <;> intro h <;> omega

/-- the derivative by a code point is the derivative by the representative of its class, for every
    expression whose atoms are among `rs` -/
theorem class_rep (rs : List (Nat × Nat)) (r : Regex) (h : ∀ p ∈ atomRanges r, p ∈ rs) (c : Nat) :
    deriv c r = deriv (repOf (bounds rs) c) r :=
  deriv_congr ((rep_sameSide rs c).mono h)

theorem mem_insertNew {x y : Nat} {l : List Nat} : y ∈ insertNew x l ↔ y = x ∨ y ∈ l := by
  unfold insertNew
  split
  next h => exact ⟨Or.inr, fun hy => hy.elim (fun e => e ▸ List.elem_iff.mp h) id⟩
  next => exact List.mem_cons

theorem mem_dedup {y : Nat} : ∀ {l : List Nat}, y ∈ dedup l ↔ y ∈ l
  | [] => Iff.rfl
  | x :: xs => by rw [dedup, mem_insertNew, mem_dedup, List.mem_cons]

theorem rep_mem_repsOf (rs : List (Nat × Nat)) (c : Nat) : repOf (bounds rs) c ∈ repsOf rs :=
  mem_dedup.mpr (repOf_mem _ _)

theorem mem_pairRanges {S : List Pair} {p : Pair} (hp : p ∈ S) {x : Nat × Nat}
    (hx : x ∈ atomRanges p.1 ∨ x ∈ atomRanges p.2) : x ∈ pairRanges S := by
  induction S with
  | nil => cases hp
  | cons q S ih =>
    simp only [pairRanges, List.mem_append]
    rcases List.mem_cons.mp hp with rfl | hp
    · exact Or.inl hx
    · exact Or.inr (ih hp)

theorem isDead_sound {p : Pair} (h : isDead p = true) (s : List Nat) :
    ¬ (matchStr p.1 s = true ∧ matchStr p.2 s = true) := by
  simp only [isDead, Bool.or_eq_true, decide_eq_true_eq] at h
  rintro ⟨h1, h2⟩
  rcases h with h | h
  · rw [h, matchStr_empty] at h1; cases h1
  · rw [h, matchStr_empty] at h2; cases h2

theorem closed_sound {S : List Pair} (hS : closedCheck S = true) :
    ∀ (s : List Nat) (p : Pair), p ∈ S → ¬ (matchStr p.1 s = true ∧ matchStr p.2 s = true) := by
  simp only [closedCheck, List.all_eq_true, Bool.and_eq_true, Bool.not_eq_true',
    Bool.or_eq_true, List.elem_eq_mem, decide_eq_true_eq] at hS
  intro s
  induction s with
  | nil =>
    intro p hp ⟨h1, h2⟩
    have := (hS p hp).1
    rw [matchStr_nil] at h1 h2
    rw [h1, h2] at this
    cases this
  | cons c t ih =>
    intro p hp ⟨h1, h2⟩
    -- step by the representative of `c` instead of `c`: its successor is dead or again in `S`
    let c' := repOf (bounds (pairRanges S)) c
    rw [matchStr_cons, class_rep _ _ (fun _ hx => mem_pairRanges hp (.inl hx)) c] at h1
    rw [matchStr_cons, class_rep _ _ (fun _ hx => mem_pairRanges hp (.inr hx)) c] at h2
    rcases (hS p hp).2 c' (rep_mem_repsOf _ _) with hd | hm
    · exact isDead_sound hd t ⟨h1, h2⟩
    · exact ih (succPair c' p) hm ⟨h1, h2⟩

theorem verdictFuel_disjoint_iff {fuel : Nat} {r₁ r₂ : Regex} :
    verdictFuel fuel r₁ r₂ = .disjoint ↔
      ∃ S, explore (repsOf (atomRanges r₁ ++ atomRanges r₂)) fuel [((r₁, r₂), [])] [(r₁, r₂)] = .closed S ∧
        (r₁, r₂) ∈ S ∧ closedCheck S = true := by
  simp only [verdictFuel]
  split
  · split <;> simp [*]
  · split <;> simp_all
  · simp [*]

theorem verdictFuel_disjoint_sound {fuel : Nat} {r₁ r₂ : Regex}
    (h : verdictFuel fuel r₁ r₂ = .disjoint) (s : List Nat) :
    ¬ (matchStr r₁ s = true ∧ matchStr r₂ s = true) := by
  obtain ⟨S, _, hm, hc⟩ := verdictFuel_disjoint_iff.mp h
  exact closed_sound hc s (r₁, r₂) hm

theorem verdictFuel_overlap_witness {fuel : Nat} {r₁ r₂ : Regex} {w : List Nat}
    (h : verdictFuel fuel r₁ r₂ = .overlap w) : matchStr r₁ w = true ∧ matchStr r₂ w = true := by
  simp only [verdictFuel] at h
  split at h
  · split at h
    · next hc => cases h; exact Bool.and_eq_true_iff.mp hc
    · cases h
  · split at h <;> cases h
  · cases h

theorem atomRanges_mkCat {a b : Regex} {x : Nat × Nat} (h : x ∈ atomRanges (mkCat a b)) :
    x ∈ atomRanges a ∨ x ∈ atomRanges b := by
  unfold mkCat at h
  split at h; · cases h
  split at h; · cases h
  split at h; · exact .inr h
  split at h; · exact .inl h
  exact List.mem_append.mp h

theorem atomRanges_mkAlt {a b : Regex} {x : Nat × Nat} (h : x ∈ atomRanges (mkAlt a b)) :
    x ∈ atomRanges a ∨ x ∈ atomRanges b := by
  unfold mkAlt at h
  split at h; · exact .inr h
  split at h; · exact .inl h
  split at h; · exact .inl h
  exact List.mem_append.mp h

theorem atomRanges_deriv (c : Nat) {x : Nat × Nat} :
    ∀ {r : Regex}, x ∈ atomRanges (deriv c r) → x ∈ atomRanges r := by
  intro r
  induction r with
  | empty | eps => exact id
  | cls n rs => intro h; rw [deriv] at h; split at h <;> cases h
  | cat a b iha ihb =>
    intro h
    rw [deriv] at h
    rw [atomRanges, List.mem_append]
    split at h
    · exact (atomRanges_mkAlt h).elim (fun h => (atomRanges_mkCat h).imp_left iha) (fun h => .inr (ihb h))
    · exact (atomRanges_mkCat h).imp_left iha
  | alt a b iha ihb =>
    intro h
    rw [deriv] at h
    exact List.mem_append.mpr ((atomRanges_mkAlt h).imp iha ihb)
  | star a iha => intro h; rw [deriv] at h; exact (atomRanges_mkCat h).elim iha id

/-- `p` has been expanded within `S`: it is not accepting, and each successor by a representative
    is dead or in `S` -/
def Done (reps : List Nat) (S : List Pair) (p : Pair) : Prop :=
  (nullable p.1 && nullable p.2) = false ∧
    ∀ c ∈ reps, isDead (succPair c p) = true ∨ succPair c p ∈ S

def Within (A : List (Nat × Nat)) (p : Pair) : Prop :=
  ∀ x, x ∈ atomRanges p.1 ∨ x ∈ atomRanges p.2 → x ∈ A

theorem Within.succ {A : List (Nat × Nat)} {p : Pair} (h : Within A p) (c : Nat) :
    Within A (succPair c p) := fun x hx => h x (hx.imp (atomRanges_deriv c) (atomRanges_deriv c))

theorem pushSuccs_spec {A : List (Nat × Nat)} {p : Pair} (hp : Within A p) (path : List Nat) :
    ∀ (cs : List Nat) (todo : List (Pair × List Nat)) (seen : List Pair),
      let r := pushSuccs p path cs todo seen
      (∀ q ∈ seen, q ∈ r.2) ∧ (∀ q ∈ todo.map (·.1), q ∈ r.1.map (·.1)) ∧
      (∀ q ∈ r.2, q ∈ seen ∨ q ∈ r.1.map (·.1)) ∧
      (∀ q ∈ r.1.map (·.1), q ∈ todo.map (·.1) ∨ Within A q) ∧
      ∀ c ∈ cs, isDead (succPair c p) = true ∨ succPair c p ∈ r.2
  | [], todo, seen =>
    ⟨fun _ h => h, fun _ h => h, fun _ h => .inl h, fun _ h => .inl h, fun _ h => nomatch h⟩
  | c :: cs, todo, seen => by
    rw [pushSuccs]
    dsimp only
    split
    next hc =>
      obtain ⟨h1, h2, h3, h4, h5⟩ := pushSuccs_spec hp path cs todo seen
      refine ⟨h1, h2, h3, h4, List.forall_mem_cons.mpr ⟨?_, h5⟩⟩
      rw [Bool.or_eq_true, List.elem_eq_mem, decide_eq_true_eq] at hc
      exact hc.imp_right (h1 _)
    next =>
      obtain ⟨h1, h2, h3, h4, h5⟩ :=
        pushSuccs_spec hp path cs (todo ++ [(succPair c p, c :: path)]) (succPair c p :: seen)
      simp only [List.map_append, List.map_cons, List.map_nil, List.mem_append, List.mem_cons,
        List.not_mem_nil, or_false] at h1 h2 h3 h4
      refine ⟨fun q h => h1 q (.inr h), fun q h => h2 q (.inl h), fun q h => ?_, fun q h => ?_,
        List.forall_mem_cons.mpr ⟨.inr (h1 _ (.inl rfl)), h5⟩⟩
      · rcases h3 q h with (rfl | h) | h
        · exact .inr (h2 _ (.inr rfl))
        · exact .inl h
        · exact .inr h
      · rcases h4 q h with (h | rfl) | h
        · exact .inl h
        · exact .inr (hp.succ c)
        · exact .inr h

theorem Done.mono {reps : List Nat} {S S' : List Pair} {p : Pair} (h : Done reps S p)
    (hs : ∀ q ∈ S, q ∈ S') : Done reps S' p := ⟨h.1, fun c hc => (h.2 c hc).imp_right (hs _)⟩

/-- the search invariant: what is queued or seen has its atoms in `A`, and every pair seen is queued or
    expanded -/
theorem explore_closed {A : List (Nat × Nat)} {reps : List Nat} {S : List Pair} :
    ∀ (fuel : Nat) (todo : List (Pair × List Nat)) (seen : List Pair),
      (∀ q ∈ todo.map (·.1), Within A q) →
      (∀ q ∈ seen, Within A q ∧ (q ∈ todo.map (·.1) ∨ Done reps seen q)) →
      explore reps fuel todo seen = .closed S →
      (∀ q ∈ seen, q ∈ S) ∧ ∀ q ∈ S, Within A q ∧ Done reps S q
  | 0, _, _, _, _, h => nomatch h
  | _ + 1, [], seen, _, inv, h => by
    cases h
    exact ⟨fun _ h => h, fun q hq => ⟨(inv q hq).1, (inv q hq).2.resolve_left (fun h => nomatch h)⟩⟩
  | n + 1, (p, path) :: todo, seen, hw, inv, h => by
    rw [explore] at h
    split at h
    · cases h
    next hacc =>
      obtain ⟨hp, hw⟩ := List.forall_mem_cons.mp hw
      have hs := pushSuccs_spec hp path reps todo seen
      generalize pushSuccs p path reps todo seen = r at h hs
      obtain ⟨h1, h2, h3, h4, h5⟩ := hs
      have hw' := fun q hq => (h4 q hq).elim (hw q) id
      have inv' : ∀ q ∈ r.2, Within A q ∧ (q ∈ r.1.map (·.1) ∨ Done reps r.2 q) := by
        intro q hq
        rcases h3 q hq with hs | ht
        · refine ⟨(inv q hs).1, ?_⟩
          rcases (inv q hs).2 with hm | hd
          · rcases List.mem_cons.mp hm with rfl | hm
            · exact .inr ⟨Bool.not_eq_true _ ▸ hacc, h5⟩
            · exact .inl (h2 q hm)
          · exact .inr (hd.mono h1)
        · exact ⟨hw' q ht, .inl ht⟩
      obtain ⟨k1, k2⟩ := explore_closed n _ _ hw' inv' h
      exact ⟨fun q hq => k1 q (h1 q hq), k2⟩

/-- `closedCheck` takes its representatives from the atoms of the set, the search from those of `r₁`,
    `r₂`: a representative `c` of the former acts like its own representative among the latter -/
theorem explore_passes_check {r₁ r₂ : Regex} {fuel : Nat} {S : List Pair}
    (h : explore (repsOf (atomRanges r₁ ++ atomRanges r₂)) fuel [((r₁, r₂), [])] [(r₁, r₂)] = .closed S) :
    (r₁, r₂) ∈ S ∧ closedCheck S = true := by
  have hw : ∀ q ∈ [(r₁, r₂)], Within (atomRanges r₁ ++ atomRanges r₂) q := by
    intro q hq x hx
    cases List.mem_singleton.mp hq
    exact List.mem_append.mpr hx
  obtain ⟨k1, k2⟩ :=
    explore_closed fuel [((r₁, r₂), [])] [(r₁, r₂)] hw (fun q hq => ⟨hw q hq, .inl hq⟩) h
  refine ⟨k1 _ List.mem_cons_self, ?_⟩
  simp only [closedCheck, List.all_eq_true, Bool.and_eq_true, Bool.not_eq_true',
    Bool.or_eq_true, List.elem_eq_mem, decide_eq_true_eq]
  intro p hp
  obtain ⟨hA, hacc, hsucc⟩ := k2 p hp
  refine ⟨hacc, fun c _ => ?_⟩
  rw [succPair, class_rep _ _ (fun x hx => hA x (.inl hx)) c,
    class_rep _ _ (fun x hx => hA x (.inr hx)) c]
  exact hsucc _ (mem_dedup.mpr (repOf_mem _ _))

/-! ### evaluating `isDisjoint` in the kernel

By `explore_passes_check` the kernel need only run the search.  `dedup` is quadratic, and under kernel
evaluation `repsOf` costs more than the exploration of the few states a pair of matchers has.
`dedupMask` makes one pass, with the set of members so far in the bits of a `Nat`, on which the
kernel computes natively (the mask is as wide as the largest code point of the table). -/

def dedupMask : List Nat → List Nat × Nat
  | [] => ([], 0)
  | x :: xs => let r := dedupMask xs; if r.2.testBit x then r else (x :: r.1, r.2 ||| 1 <<< x)

theorem dedupMask_spec : ∀ l : List Nat,
    (dedupMask l).1 = dedup l ∧ ∀ y, (dedupMask l).2.testBit y = decide (y ∈ dedup l)
  | [] => ⟨rfl, fun y => by simp [dedupMask, dedup]⟩
  | x :: xs => by
    obtain ⟨h1, h2⟩ := dedupMask_spec xs
    simp only [dedupMask, dedup, insertNew, h2 x, List.elem_eq_mem]
    split
    · exact ⟨h1, h2⟩
    · refine ⟨congrArg _ h1, fun y => ?_⟩
      simp [Nat.testBit_or, h2, Nat.one_shiftLeft, Nat.testBit_two_pow, List.mem_cons, eq_comm, Bool.or_comm]

def repsMask (rs : List (Nat × Nat)) : List Nat := (dedupMask (0 :: bounds rs)).1

theorem repsOf_eq_repsMask : repsOf = repsMask := funext fun _ => (dedupMask_spec _).1.symm

def searchCloses (reps : List (Nat × Nat) → List Nat) (r₁ r₂ : Regex) : Bool :=
  match explore (reps (atomRanges r₁ ++ atomRanges r₂)) defaultFuel [((r₁, r₂), [])] [(r₁, r₂)] with
  | .closed _ => true
  | _ => false

theorem isDisjoint_iff {r₁ r₂ : Regex} :
    isDisjoint r₁ r₂ = true ↔ searchCloses repsMask r₁ r₂ = true := by
  rw [isDisjoint, decide_eq_true_eq, verdict, verdictFuel_disjoint_iff, searchCloses, ← repsOf_eq_repsMask]
  constructor
  · rintro ⟨S, h, _⟩; rw [h]
  · intro h
    split at h
    next S hS => exact ⟨S, hS, explore_passes_check hS⟩
    · cases h

theorem allDisjointFrom_iff {r : Regex} : ∀ {l : List Regex},
    allDisjointFrom r l = true ↔ ∀ x ∈ l, isDisjoint r x = true
  | [] => by simp [allDisjointFrom]
  | _ :: _ => by rw [allDisjointFrom, Bool.and_eq_true, allDisjointFrom_iff, List.forall_mem_cons]

theorem allPairsDisjoint_iff : ∀ {l : List Regex},
    allPairsDisjoint l = true ↔ l.Pairwise (isDisjoint · · = true)
  | [] => by simp [allPairsDisjoint]
  | _ :: _ => by
    rw [allPairsDisjoint, Bool.and_eq_true, allDisjointFrom_iff, allPairsDisjoint_iff, List.pairwise_cons]

theorem allPairsDisjoint_iff_mask {l : List Regex} :
    allPairsDisjoint l = true ↔ l.Pairwise (searchCloses repsMask · · = true) := by
  simp only [allPairsDisjoint_iff, isDisjoint_iff]

theorem allPairsDisjoint_sound {l : List Regex} (h : allPairsDisjoint l = true) :
    l.Pairwise fun a b => ∀ s, ¬ (matchStr a s = true ∧ matchStr b s = true) :=
  (allPairsDisjoint_iff.mp h).imp fun h => verdictFuel_disjoint_sound (of_decide_eq_true h)

theorem accepting_le_one {l : List Regex} (h : allPairsDisjoint l = true) (s : List Nat) :
    (l.filter (fun r => matchStr r s)).length ≤ 1 := by
  have hp := (allPairsDisjoint_sound h).filter (fun r => matchStr r s)
  have hm : ∀ r ∈ l.filter (fun r => matchStr r s), matchStr r s = true :=
    fun r hr => (List.mem_filter.mp hr).2
  generalize l.filter _ = m at hp hm
  match m, hp, hm with
  | [], _, _ => exact Nat.zero_le 1
  | [_], _, _ => exact Nat.le_refl 1
  | a :: b :: _, hp, hm =>
    exact absurd ⟨hm a (by simp), hm b (by simp)⟩ ((List.pairwise_cons.mp hp).1 b (by simp) s)

end BMV.Regex
