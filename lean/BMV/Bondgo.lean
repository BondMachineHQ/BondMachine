/-
  BMV.Bondgo — executable model of the core subset of the `bondgo` Go-subset compiler
  (/repo/pkg/bondgo/visiter.go `BondgoCheck.Visit`, expr.go `Expr_eval`, runinfo.go `Var_assigner`
  as a register allocator, results.go / routines.go line bookkeeping), the source semantics of that
  subset (`exec`), and an interpreter for the emitted instruction subset (`isaStep`).

  Core-only (no Mathlib): the oracle executable links against it.

  What the compiler really accepts (read off visiter.go / expr.go; narrower than the list in
  DESIGN.md C12): binary operators `+`, `*`, `==` only (`-`, `&`, `|`, `^` are rejected with
  "Unsopported binary operation"), `x++` / `x--`, `=` (also of tuples), `:=`, `if [else]`,
  `for [cond] { }`, `for …; cond; post { }`, `break`, `continue`, `switch`, `bondgo.IORead(i)`, `bondgo.IOWrite(o, e)`, `bondgo.Make(bondgo.Input|Output, k)` with k ≥ 1.

  Source forms of the modelled subset (declarations at the top of `main`; memory variables may also
  be declared inside `if` / `for` bodies, where they may shadow an outer name — the model works on
  unique variable indices, i.e. on the program after Go's name resolution):
      var iK bondgo.Input / var oK bondgo.Output      (all of them first)
      var vK uintW  (memory variable)  |  var reg_vK uintW  (register variable)
      iK = bondgo.Make(bondgo.Input, g)  /  oK = bondgo.Make(bondgo.Output, g)
      statements: vK = e | vK++ | vK-- | bondgo.IOWrite(oK, e) | if a == b {..} [else {..}]
                  | for [a == b] {..}
      e ::= literal | vK | e + e | e * e | bondgo.IORead(iK)

  Go                                         model
  ----------------------------------------   --------------------------------------------------
  Var_assigner, REQ_NEW REGISTER             `fresh busy` (lowest id not in the busy list)
  Var_assigner, REQ_REMOVE                   `busy.erase r`
  WriteLine + Replacer + Shift_program_..    fragments compiled at an absolute base address
  Expr_eval                                  `compileE`, `compileC`
  Visit (AssignStmt, IncDecStmt, CallExpr    `compileS`
         IOWrite, IfStmt, ForStmt)
  GenDecl (var … uintW / reg_…)              `preamble`
  Visit (BranchStmt, three-clause ForStmt,   `compileX` (with `compileEs`, `compileStores`, `swHeader`);
         tuple `=`, `:=`, SwitchStmt)          source semantics `execX`
-/
namespace BMV.Bondgo

/-! ## instructions (the emitted subset) -/

inductive Instr where
  | clr (r : Nat)
  | rset (r n : Nat)
  | cpy (d s : Nat)
  | m2r (r m : Nat)
  | r2m (r m : Nat)
  | add (d s : Nat)
  | mult (d s : Nat)
  | inc (r : Nat)
  | dec (r : Nat)
  | je (a b t : Nat)
  | jz (r t : Nat)
  | j (t : Nat)
  | i2r (r i : Nat)
  | r2o (r o : Nat)
deriving DecidableEq, Repr, Inhabited

/-- the text `Write_assembly` produces for the instruction -/
def Instr.text : Instr → String
  | .clr r => s!"clr r{r}"
  | .rset r n => s!"rset r{r} {n}"
  | .cpy d s => s!"cpy r{d} r{s}"
  | .m2r r m => s!"m2r r{r} {m}"
  | .r2m r m => s!"r2m r{r} {m}"
  | .add d s => s!"add r{d} r{s}"
  | .mult d s => s!"mult r{d} r{s}"
  | .inc r => s!"inc r{r}"
  | .dec r => s!"dec r{r}"
  | .je a b t => s!"je r{a} r{b} {t}"
  | .jz r t => s!"jz r{r} {t}"
  | .j t => s!"j {t}"
  | .i2r r i => s!"i2r r{r} i{i}"
  | .r2o r o => s!"r2o r{r} o{o}"

def Instr.opname : Instr → String
  | .clr _ => "clr" | .rset _ _ => "rset" | .cpy _ _ => "cpy" | .m2r _ _ => "m2r"
  | .r2m _ _ => "r2m" | .add _ _ => "add" | .mult _ _ => "mult" | .inc _ => "inc"
  | .dec _ => "dec" | .je _ _ _ => "je" | .jz _ _ => "jz" | .j _ => "j"
  | .i2r _ _ => "i2r" | .r2o _ _ => "r2o"

/-! ## source language -/

inductive Expr where
  | lit (n : Nat)
  | var (x : Nat)
  | add (a b : Expr)
  | mul (a b : Expr)
  | ioread (i : Nat)
deriving DecidableEq, Repr, Inhabited

/-- the only boolean expression the compiler can evaluate is `a == b` -/
inductive Cond where
  | eq (a b : Expr)
deriving DecidableEq, Repr, Inhabited

/-- statements; a block is a `seq … skip` chain -/
inductive Stmt where
  | skip
  | seq (s rest : Stmt)
  | assign (x : Nat) (e : Expr)
  | inc (x : Nat)
  | dec (x : Nat)
  | iowrite (o : Nat) (e : Expr)
  | ifThen (c : Cond) (t : Stmt)
  | ifElse (c : Cond) (t e : Stmt)
  | loop (c : Option Cond) (body : Stmt)
  | decl (x : Nat)      -- `var x uintW` inside an `if` / `for` body (a memory variable; x = its unique index)
  | brk                 -- `break`
  | cont                -- `continue`
  | loopP (c : Cond) (body post : Stmt)   -- `for [init]; c; post { body }` (init is written before the loop)
  | tassign (ps : List (Nat × Expr))      -- `x1, x2, … = e1, e2, …` (tuple assignment, also a single `=`)
  | define (ps : List (Nat × Expr))       -- `x1, x2, … := e1, e2, …` (new memory variables of the current block)
  | switch (tag : Expr) (cs : Stmt)       -- `switch tag { … }`; `cs` = the clauses: `swCase … (swCase … (swDefault … | skip))`
  | swCase (v : Nat) (body rest : Stmt)   -- `case v: body`, then the following clauses (only inside `switch`)
  | swDefault (body : Stmt)               -- `default: body`, the last clause (only inside `switch`)
deriving Repr, Inhabited

/-- a program: the kinds of the declared variables in declaration order (`true` = `reg_` variable
    kept in a register, `false` = memory variable), and the body of `main` -/
structure Prog where
  decls : List Bool
  body : Stmt
deriving Repr, Inhabited

/-! ## the allocator (Var_assigner for REGISTER cells of one processor) -/

def maxList : List Nat → Nat
  | [] => 0
  | x :: xs => max x (maxList xs)

/-- lowest register id that is not busy (Go: `for i := 0; i < MAX_REGS; i++ { … if !present`) -/
def fresh (busy : List Nat) : Nat :=
  match (List.range (busy.length + 1)).find? (fun i => !busy.contains i) with
  | some i => i
  | none => maxList busy + 1      -- never taken (pigeonhole); keeps `fresh_not_mem` elementary

/-- where a variable lives -/
inductive Loc where
  | reg (r : Nat)
  | mem (m : Nat)
deriving DecidableEq, Repr, Inhabited

/-- locations of the declared variables: register variables take the lowest free register at
    their declaration, memory variables the next memory cell -/
def locsFrom : List Bool → List Nat → Nat → List Loc
  | [], _, _ => []
  | true :: ds, busy, m => .reg (fresh busy) :: locsFrom ds (fresh busy :: busy) m
  | false :: ds, busy, m => .mem m :: locsFrom ds busy (m + 1)

def locs (decls : List Bool) : List Loc := locsFrom decls [] 0

/-- registers held by register variables -/
def varRegs (ls : List Loc) : List Nat :=
  ls.filterMap fun l => match l with | .reg r => some r | .mem _ => none

/-- cells of the variables a `:=` declares, in order: each takes the lowest free cell -/
def defCells : List (Nat × Expr) → List Nat → List Loc × List Nat × List Nat
  | [], mems => ([], mems, [])
  | _ :: ps, mems =>
    let (l, m2, t) := defCells ps (fresh mems :: mems)
    (.mem (fresh mems) :: l, m2, fresh mems :: t)


/-- Memory cells of the variables declared inside `if` / `for` bodies, in textual order.
    State: the busy memory cells; result: (locations in order of declaration, busy cells afterwards,
    cells of the declarations made directly in this statement sequence).
    The real compiler (`Visit`, `bg.Clean`) releases the variables of a block only when the visitor
    that owns the block is visited again: for the subset here that happens in two places, between the
    `then` and the `else` body of an `if`/`else`, and between the body and the post clause of a
    three-clause `for`; the variables of an `else` body, of an `if` without `else`, of the body of a `for`
    without post clause and of `switch` clauses are never released. -/
def blockLocs : Stmt → List Nat → List Loc × List Nat × List Nat
  | .skip, mems => ([], mems, [])
  | .seq a b, mems =>
    let (la, m1, ta) := blockLocs a mems
    let (lb, m2, tb) := blockLocs b m1
    (la ++ lb, m2, ta ++ tb)
  | .decl _, mems => ([.mem (fresh mems)], fresh mems :: mems, [fresh mems])
  | .assign _ _, mems => ([], mems, [])
  | .inc _, mems => ([], mems, [])
  | .dec _, mems => ([], mems, [])
  | .iowrite _ _, mems => ([], mems, [])
  | .ifThen _ t, mems =>
    let (lt, m1, _) := blockLocs t mems
    (lt, m1, [])
  | .ifElse _ t e, mems =>
    let (lt, m1, tt) := blockLocs t mems
    let (le, m2, _) := blockLocs e (tt.foldl List.erase m1)
    (lt ++ le, m2, [])
  | .loop _ b, mems =>
    let (lb, m1, _) := blockLocs b mems
    (lb, m1, [])
  | .brk, mems => ([], mems, [])
  | .cont, mems => ([], mems, [])
  | .tassign _, mems => ([], mems, [])
  | .define ps, mems => defCells ps mems
  -- the visitor of a switch is never visited again after a nested block: nothing is released inside
  -- it; a `var` written directly in a clause is never released either
  | .switch _ cs, mems =>
    let (l, m1, _) := blockLocs cs mems
    (l, m1, [])
  | .swCase _ b r, mems =>
    let (lb, m1, _) := blockLocs b mems
    let (lr, m2, _) := blockLocs r m1
    (lb ++ lr, m2, [])
  | .swDefault b, mems =>
    let (lb, m1, _) := blockLocs b mems
    (lb, m1, [])
  | .loopP _ b p, mems =>
    -- a post clause makes the real compiler visit the loop's visitor again: the body's variables
    -- are released before the post clause is compiled
    let (lb, m1, tb) := blockLocs b mems
    let (lp, m2, _) := blockLocs p (tb.foldl List.erase m1)
    (lb ++ lp, m2, [])

/-- memory cells of the top-level declarations -/
def memCells (ls : List Loc) : List Nat :=
  ls.filterMap fun l => match l with | .mem m => some m | .reg _ => none

/-- locations of all variables of a program: the top-level ones (indices `0 … decls.length-1`),
    then the block-local ones in textual order -/
def allLocs (p : Prog) : List Loc :=
  locs p.decls ++ (blockLocs p.body (memCells (locs p.decls))).1

/-- code of the declarations (`clr r` / `clr t; r2m t m`) -/
def preambleFrom : List Bool → List Nat → Nat → List Instr
  | [], _, _ => []
  | true :: ds, busy, m => .clr (fresh busy) :: preambleFrom ds (fresh busy :: busy) m
  | false :: ds, busy, m => .clr (fresh busy) :: .r2m (fresh busy) m :: preambleFrom ds busy (m + 1)

def preamble (decls : List Bool) : List Instr := preambleFrom decls [] 0

/-! ## the compiler -/

/-- `Expr_eval`: code, result register, busy list afterwards.  An undeclared variable makes the
    real compiler fail ("Variable … not defined"); the model emits nothing for it (`none`). -/
def compileE (ls : List Loc) : Expr → List Nat → Option (List Instr × Nat × List Nat)
  | .lit n, busy => some ([.rset (fresh busy) n], fresh busy, fresh busy :: busy)
  | .var x, busy =>
    match ls[x]? with
    | some (.reg g) => some ([.cpy (fresh busy) g], fresh busy, fresh busy :: busy)
    | some (.mem m) => some ([.m2r (fresh busy) m], fresh busy, fresh busy :: busy)
    | none => none
  | .ioread i, busy => some ([.i2r (fresh busy) i], fresh busy, fresh busy :: busy)
  | .add a b, busy =>
    match compileE ls a busy with
    | none => none
    | some (ca, ra, busy1) =>
      match compileE ls b busy1 with
      | none => none
      | some (cb, rb, busy2) => some (ca ++ cb ++ [.add ra rb], ra, busy2.erase rb)
  | .mul a b, busy =>
    match compileE ls a busy with
    | none => none
    | some (ca, ra, busy1) =>
      match compileE ls b busy1 with
      | none => none
      | some (cb, rb, busy2) => some (ca ++ cb ++ [.mult ra rb], ra, busy2.erase rb)

/-- `Expr_eval` of `a == b` emitted at absolute address `base` -/
def compileC (ls : List Loc) (base : Nat) : Cond → List Nat → Option (List Instr × Nat × List Nat)
  | .eq a b, busy =>
    match compileE ls a busy with
    | none => none
    | some (ca, ra, busy1) =>
      match compileE ls b busy1 with
      | none => none
      | some (cb, rb, busy2) =>
        let rc := fresh busy2
        let l := base + ca.length + cb.length
        some (ca ++ cb ++ [.je ra rb (l + 3), .rset rc 0, .j (l + 4), .rset rc 1], rc,
              ((rc :: busy2).erase ra).erase rb)

/-- `Visit` on statements, emitted at absolute address `base` -/
def compileS (ls : List Loc) : Stmt → Nat → List Nat → Option (List Instr × List Nat)
  | .skip, _, busy => some ([], busy)
  | .seq s rest, base, busy =>
    match compileS ls s base busy with
    | none => none
    | some (c1, busy1) =>
      match compileS ls rest (base + c1.length) busy1 with
      | none => none
      | some (c2, busy2) => some (c1 ++ c2, busy2)
  | .assign x e, _, busy =>
    match ls[x]?, compileE ls e busy with
    | some (.reg g), some (c, r, busy1) => some (c ++ [.cpy g r], busy1.erase r)
    | some (.mem m), some (c, r, busy1) => some (c ++ [.r2m r m], busy1.erase r)
    | _, _ => none
  | .inc x, _, busy =>
    match ls[x]? with
    | some (.reg g) => some ([.inc g], busy)
    | some (.mem m) => some ([.m2r (fresh busy) m, .inc (fresh busy), .r2m (fresh busy) m], busy)
    | none => none
  | .dec x, _, busy =>
    match ls[x]? with
    | some (.reg g) => some ([.dec g], busy)
    | some (.mem m) => some ([.m2r (fresh busy) m, .dec (fresh busy), .r2m (fresh busy) m], busy)
    | none => none
  | .iowrite o e, _, busy =>
    -- the real compiler never releases the register of the written value (CallExpr IOWrite)
    match compileE ls e busy with
    | some (c, r, busy1) => some (c ++ [.r2o r o], busy1)
    | none => none
  | .decl x, _, busy =>
    match ls[x]? with
    | some (.mem m) => some ([.clr (fresh busy), .r2m (fresh busy) m], busy)
    | _ => none
  | .ifThen c t, base, busy =>
    match compileC ls base c busy with
    | none => none
    | some (cc, rc, busy1) =>
      match compileS ls t (base + cc.length + 1) (busy1.erase rc) with
      | none => none
      | some (ct, busy2) =>
        some (cc ++ [.jz rc (base + cc.length + 1 + ct.length)] ++ ct, busy2)
  | .ifElse c t e, base, busy =>
    match compileC ls base c busy with
    | none => none
    | some (cc, rc, busy1) =>
      match compileS ls t (base + cc.length + 1) (busy1.erase rc) with
      | none => none
      | some (ct, busy2) =>
        match compileS ls e (base + cc.length + 1 + ct.length + 1) busy2 with
        | none => none
        | some (ce, busy3) =>
          some (cc ++ [.jz rc (base + cc.length + 1 + ct.length + 1)] ++ ct
                  ++ [.j (base + cc.length + 1 + ct.length + 1 + ce.length)] ++ ce, busy3)
  | .loop none body, base, busy =>
    match compileS ls body base busy with
    | none => none
    | some (cb, busy1) => some (cb ++ [.j base], busy1)
  | .loop (some c) body, base, busy =>
    match compileC ls base c busy with
    | none => none
    | some (cc, rc, busy1) =>
      match compileS ls body (base + cc.length + 1) (busy1.erase rc) with
      | none => none
      | some (cb, busy2) =>
        some (cc ++ [.jz rc (base + cc.length + 1 + cb.length + 1)] ++ cb ++ [.j base], busy2)
  -- `break`, `continue` and three-clause loops need the loop labels; tuple assignment, `:=` and `switch`
  -- are compiled by `compileX` only
  | .brk, _, _ => none
  | .cont, _, _ => none
  | .loopP _ _ _, _, _ => none
  | .tassign _, _, _ => none
  | .define _, _, _ => none
  | .switch _ _, _, _ => none
  | .swCase _ _ _, _, _ => none
  | .swDefault _, _, _ => none

/-- the whole program: declarations, then the body of `main` -/
def compile (p : Prog) : Option (List Instr) :=
  let ls := allLocs p
  let pre := preamble p.decls
  match compileS ls p.body pre.length (varRegs (locs p.decls)) with
  | some (c, _) => some (pre ++ c)
  | none => none

/-- registers an instruction mentions -/
def Instr.regs : Instr → List Nat
  | .clr r | .rset r _ | .m2r r _ | .r2m r _ | .inc r | .dec r | .jz r _ | .i2r r _ | .r2o r _ => [r]
  | .cpy d s | .add d s | .mult d s | .je d s _ => [d, s]
  | .j _ => []

/-- registers an instruction writes -/
def Instr.writes : Instr → List Nat
  | .clr r | .rset r _ | .m2r r _ | .inc r | .dec r | .i2r r _ => [r]
  | .cpy d _ | .add d _ | .mult d _ => [d]
  | .r2m _ _ | .je _ _ _ | .jz _ _ | .j _ | .r2o _ _ => []

/-- registers the compiled program needs (Usage_Monitor: max over C_REGSIZE notifications) -/
def regCount (code : List Instr) : Nat :=
  maxList (code.flatMap fun i => i.regs.map (· + 1))

/-- opcodes in order of first use (Usage_Monitor: C_OPCODE notifications) -/
def opcodes (code : List Instr) : List String :=
  code.foldl (fun acc i => if acc.contains i.opname then acc else acc ++ [i.opname]) []

/-! ## the machine: interpreter for the emitted subset

  `clr rset cpy add mult inc dec jz j i2r r2o` follow the `Simulate` methods of
  /repo/pkg/procbuilder/op_*.go; `r2m` / `m2r` have stub `Simulate` methods there (they only
  advance the pc), their meaning is taken from the HDL templates op_r2m.go (`ram[addr] <= reg`)
  and op_m2r.go (`reg <= ram_dout` at `addr`); `je` is a stub in *every* back-end of procbuilder
  (assembler, HDL, simulator: a no-op): here it has the meaning the compiler relies on
  (jump when the two registers are equal).  Values wrap at `2^w`.
  Inputs: the k-th `i2r` executed (over all ports) reads `env port k` (inputs may change between
  reads; the source semantics counts reads the same way). -/

structure Cfg where
  pc : Nat := 0
  regs : Nat → Nat := fun _ => 0
  mem : Nat → Nat := fun _ => 0
  rc : Nat := 0
  outs : List (Nat × Nat) := []      -- (port, value), most recent first

def upd (f : Nat → Nat) (k v : Nat) : Nat → Nat := fun i => if i = k then v else f i

def execInstr (env : Nat → Nat → Nat) (w : Nat) (c : Cfg) : Instr → Cfg
  | .clr r => { c with pc := c.pc + 1, regs := upd c.regs r 0 }
  | .rset r n => { c with pc := c.pc + 1, regs := upd c.regs r (n % 2 ^ w) }
  | .cpy d s => { c with pc := c.pc + 1, regs := upd c.regs d (c.regs s) }
  | .m2r r m => { c with pc := c.pc + 1, regs := upd c.regs r (c.mem m) }
  | .r2m r m => { c with pc := c.pc + 1, mem := upd c.mem m (c.regs r) }
  | .add d s => { c with pc := c.pc + 1, regs := upd c.regs d ((c.regs d + c.regs s) % 2 ^ w) }
  | .mult d s => { c with pc := c.pc + 1, regs := upd c.regs d ((c.regs d * c.regs s) % 2 ^ w) }
  | .inc r => { c with pc := c.pc + 1, regs := upd c.regs r ((c.regs r + 1) % 2 ^ w) }
  | .dec r => { c with pc := c.pc + 1, regs := upd c.regs r ((c.regs r + (2 ^ w - 1)) % 2 ^ w) }
  | .je a b t => { c with pc := if c.regs a = c.regs b then t else c.pc + 1 }
  | .jz r t => { c with pc := if c.regs r = 0 then t else c.pc + 1 }
  | .j t => { c with pc := t }
  | .i2r r i => { c with pc := c.pc + 1, regs := upd c.regs r (env i c.rc % 2 ^ w), rc := c.rc + 1 }
  | .r2o r o => { c with pc := c.pc + 1, outs := (o, c.regs r) :: c.outs }

/-- one instruction; `none` when the pc is outside the program (the run is over) -/
def isaStep (env : Nat → Nat → Nat) (w : Nat) (code : List Instr) (c : Cfg) : Option Cfg :=
  match code[c.pc]? with
  | some i => some (execInstr env w c i)
  | none => none

/-- at most `n` instructions -/
def isaRun (env : Nat → Nat → Nat) (w : Nat) (code : List Instr) : Nat → Cfg → Cfg
  | 0, c => c
  | n + 1, c =>
    match isaStep env w code c with
    | some c' => isaRun env w code n c'
    | none => c

/-! ## source semantics (`goEval`): Go with wrap-around at `2^w` -/

structure Src where
  vars : Nat → Nat := fun _ => 0
  rc : Nat := 0
  outs : List (Nat × Nat) := []

/-- value of an expression; `IORead`s are counted left to right -/
def evalE (env : Nat → Nat → Nat) (w : Nat) : Expr → Src → Nat × Src
  | .lit n, s => (n % 2 ^ w, s)
  | .var x, s => (s.vars x, s)
  | .ioread i, s => (env i s.rc % 2 ^ w, { s with rc := s.rc + 1 })
  | .add a b, s =>
    let (va, s1) := evalE env w a s
    let (vb, s2) := evalE env w b s1
    ((va + vb) % 2 ^ w, s2)
  | .mul a b, s =>
    let (va, s1) := evalE env w a s
    let (vb, s2) := evalE env w b s1
    ((va * vb) % 2 ^ w, s2)

def evalC (env : Nat → Nat → Nat) (w : Nat) : Cond → Src → Bool × Src
  | .eq a b, s =>
    let (va, s1) := evalE env w a s
    let (vb, s2) := evalE env w b s1
    (va == vb, s2)

/-- run a statement with `fuel` loop iterations available; the flag is `true` when the statement
    finished, `false` when the fuel ran out (the state then holds the outputs produced so far) -/
def exec (env : Nat → Nat → Nat) (w : Nat) : Nat → Stmt → Src → Src × Bool
  | _, .skip, s => (s, true)
  | fuel, .seq a b, s =>
    match exec env w fuel a s with
    | (s1, true) => exec env w fuel b s1
    | (s1, false) => (s1, false)
  | _, .assign x e, s =>
    let (v, s1) := evalE env w e s
    ({ s1 with vars := upd s1.vars x v }, true)
  | _, .decl x, s => ({ s with vars := upd s.vars x 0 }, true)     -- Go zero-initialises at every execution
  | _, .brk, s => (s, true)          -- not meaningful without loop labels: see `execX`
  | _, .cont, s => (s, true)
  | _, .loopP _ _ _, s => (s, true)
  | _, .tassign _, s => (s, true)
  | _, .define _, s => (s, true)
  | _, .switch _ _, s => (s, true)
  | _, .swCase _ _ _, s => (s, true)
  | _, .swDefault _, s => (s, true)
  | _, .inc x, s => ({ s with vars := upd s.vars x ((s.vars x + 1) % 2 ^ w) }, true)
  | _, .dec x, s => ({ s with vars := upd s.vars x ((s.vars x + (2 ^ w - 1)) % 2 ^ w) }, true)
  | _, .iowrite o e, s =>
    let (v, s1) := evalE env w e s
    ({ s1 with outs := (o, v) :: s1.outs }, true)
  | fuel, .ifThen c t, s =>
    match evalC env w c s with
    | (true, s1) => exec env w fuel t s1
    | (false, s1) => (s1, true)
  | fuel, .ifElse c t e, s =>
    match evalC env w c s with
    | (true, s1) => exec env w fuel t s1
    | (false, s1) => exec env w fuel e s1
  | 0, .loop _ _, s => (s, false)
  | fuel + 1, .loop none body, s =>
    match exec env w fuel body s with
    | (s1, true) => exec env w fuel (.loop none body) s1
    | (s1, false) => (s1, false)
  | fuel + 1, .loop (some c) body, s =>
    match evalC env w c s with
    | (false, s1) => (s1, true)
    | (true, s1) =>
      match exec env w fuel body s1 with
      | (s2, true) => exec env w fuel (.loop (some c) body) s2
      | (s2, false) => (s2, false)
termination_by fuel st _ => (fuel, sizeOf st)

/-! ## `break`, `continue`, three-clause `for`, tuple `=`, `:=`, `switch`: the extended compiler and semantics

  `compileX` is `compileS` with the addresses of the innermost loop's exit (`lb`: where `break`
  jumps — the real compiler's `<<…ENDFOR>>`) and continue point (`lc`: `<<…CONTINUEFOR>>`, the first
  instruction after the body, i.e. the post clause or the back jump).  `execX` is `exec` with a
  completion status.  On `plain` statements the two pairs agree
  (`compileX_plain`, `execX_plain`, for whole programs `compileXBody_plain`, `goEvalX_plain`, in
  BMV/Proofs/BondgoCompile.lean). -/

/-- how a statement ended -/
inductive Status where
  | ok        -- fell through
  | brk       -- `break` reached: leave the innermost loop
  | cont      -- `continue` reached: go to the continue point of the innermost loop
  | timeout   -- loop fuel exhausted
deriving DecidableEq, Repr, Inhabited

/-! Tuple assignment `x1, …, xk = e1, …, ek` (visiter.go `AssignStmt`, `token.ASSIGN`): the real compiler
    first evaluates every right-hand side, left to right, each into its own temporary register which
    stays allocated; then it stores the temporaries into the destinations, left to right, releasing
    each temporary right after its store.  Go's semantics is the same: all operands are evaluated,
    then the assignments happen in order. -/

/-- code of the right-hand sides: (code, result registers in order, busy list afterwards) -/
def compileEs (ls : List Loc) : List Expr → List Nat → Option (List Instr × List Nat × List Nat)
  | [], busy => some ([], [], busy)
  | e :: es, busy =>
    match compileE ls e busy with
    | none => none
    | some (c, r, busy1) =>
      match compileEs ls es busy1 with
      | none => none
      | some (cs, rs, busy2) => some (c ++ cs, r :: rs, busy2)

/-- the stores: `cpy g r` / `r2m r m` per destination, the temporary released after each -/
def compileStores (ls : List Loc) : List Nat → List Nat → List Nat → Option (List Instr × List Nat)
  | [], [], busy => some ([], busy)
  | x :: xs, r :: rs, busy =>
    match ls[x]? with
    | some (.reg g) =>
      match compileStores ls xs rs (busy.erase r) with
      | some (c, busy') => some (.cpy g r :: c, busy')
      | none => none
    | some (.mem m) =>
      match compileStores ls xs rs (busy.erase r) with
      | some (c, busy') => some (.r2m r m :: c, busy')
      | none => none
    | none => none
  | _, _, _ => none

/-- values of the right-hand sides, left to right -/
def evalEs (env : Nat → Nat → Nat) (w : Nat) : List Expr → Src → List Nat × Src
  | [], s => ([], s)
  | e :: es, s =>
    let (v, s1) := evalE env w e s
    let (vs, s2) := evalEs env w es s1
    (v :: vs, s2)

/-- the assignments, left to right -/
def assignAll (vars : Nat → Nat) : List Nat → List Nat → Nat → Nat
  | x :: xs, v :: vs => assignAll (upd vars x v) xs vs
  | _, _ => vars

/-- lines of the jump table of a `switch`: two per `case`, one closing jump -/
def swHeadLen : Stmt → Nat
  | .swCase _ _ rest => 2 + swHeadLen rest
  | _ => 1

/-- a clause list: `swCase`s, then `swDefault` or nothing -/
def isChain : Stmt → Bool
  | .swCase _ _ rest => isChain rest
  | .swDefault _ => true
  | .skip => true
  | _ => false

/-- the clause a `switch` on the value `v` runs (`skip`: no `case` matches and there is no `default`) -/
def swSelect (w v : Nat) : Stmt → Stmt
  | .swCase v' b rest => if v = v' % 2 ^ w then b else swSelect w v rest
  | .swDefault b => b
  | _ => .skip

theorem swSelect_size (w v : Nat) : ∀ cs : Stmt, sizeOf (swSelect w v cs) ≤ sizeOf cs := by
  intro cs
  induction cs with
  | swCase v' b rest _ ih =>
    simp only [swSelect]
    split
    · simp; omega
    · simp; omega
  | swDefault b => simp [swSelect]
  | skip => simp [swSelect]
  | _ => simp [swSelect] <;> omega

/-- number of instructions an expression compiles to -/
def exprLen : Expr → Nat
  | .lit _ => 1
  | .var _ => 1
  | .ioread _ => 1
  | .add a b => exprLen a + exprLen b + 1
  | .mul a b => exprLen a + exprLen b + 1

def condLen : Cond → Nat
  | .eq a b => exprLen a + exprLen b + 4

/-- Number of instructions a statement compiles to.  It depends on the statement and on where its
    variables live, not on the allocator state or on any address: the real compiler learns the loop
    labels after the fact (`Replacer`), the model computes them beforehand from this count
    (`compileX_length`: it is the length of the code). -/
def codeLen (ls : List Loc) : Stmt → Nat
  | .skip => 0
  | .seq a b => codeLen ls a + codeLen ls b
  | .assign _ e => exprLen e + 1
  | .inc x => match ls[x]? with | some (.mem _) => 3 | _ => 1
  | .dec x => match ls[x]? with | some (.mem _) => 3 | _ => 1
  | .iowrite _ e => exprLen e + 1
  | .decl _ => 2
  | .brk => 1
  | .cont => 1
  | .ifThen c t => condLen c + 1 + codeLen ls t
  | .ifElse c t e => condLen c + 1 + codeLen ls t + 1 + codeLen ls e
  | .loop none b => codeLen ls b + 1
  | .loop (some c) b => condLen c + 1 + codeLen ls b + 1
  | .loopP c b p => condLen c + 1 + codeLen ls b + codeLen ls p + 1
  | .tassign ps => (ps.map fun p => exprLen p.2 + 1).sum
  | .define ps => (ps.map fun p => exprLen p.2 + 1).sum
  | .switch tag cs => exprLen tag + swHeadLen cs + codeLen ls cs
  | .swCase _ b r => codeLen ls b + 1 + codeLen ls r
  | .swDefault b => codeLen ls b + 1

/-- the jump table of a `switch` (visiter.go `*ast.SwitchStmt`, first loop): per `case v` the
    constant into the temporary `r` (released again: the same register every time) and
    `je rt r <start of that clause>`; then one jump to the default clause or, without one, to the
    end of the switch — in both cases the address right after the last `case` clause.
    `start` = address of the first clause of `cs`. -/
def swHeader (ls : List Loc) (rt r : Nat) : Nat → Stmt → List Instr
  | start, .swCase v b rest => .rset r v :: .je rt r start :: swHeader ls rt r (start + codeLen ls b + 1) rest
  | start, _ => [.j start]

def compileX (ls : List Loc) (lb lc : Nat) : Stmt → Nat → List Nat → Option (List Instr × List Nat)
  | .skip, _, busy => some ([], busy)
  | .seq s rest, base, busy =>
    match compileX ls lb lc s base busy with
    | none => none
    | some (c1, busy1) =>
      match compileX ls lb lc rest (base + c1.length) busy1 with
      | none => none
      | some (c2, busy2) => some (c1 ++ c2, busy2)
  | .assign x e, base, busy => compileS ls (.assign x e) base busy
  | .inc x, base, busy => compileS ls (.inc x) base busy
  | .dec x, base, busy => compileS ls (.dec x) base busy
  | .iowrite o e, base, busy => compileS ls (.iowrite o e) base busy
  | .decl x, base, busy => compileS ls (.decl x) base busy
  | .brk, _, busy => some ([.j lb], busy)
  | .cont, _, busy => some ([.j lc], busy)
  | .tassign ps, _, busy =>
    match compileEs ls (ps.map (·.2)) busy with
    | none => none
    | some (ce, rs, busy1) =>
      match compileStores ls (ps.map (·.1)) rs busy1 with
      | none => none
      | some (cs, busy2) => some (ce ++ cs, busy2)
  | .define ps, _, busy =>
    -- `x1, … := e1, …` (visiter.go `token.DEFINE`, names without the `reg_` prefix): all right-hand
    -- sides into temporaries, then per variable a fresh memory cell (`blockLocs`), `r2m`, release
    match compileEs ls (ps.map (·.2)) busy with
    | none => none
    | some (ce, rs, busy1) =>
      match compileStores ls (ps.map (·.1)) rs busy1 with
      | none => none
      | some (cs, busy2) =>
        if (ps.map (·.1)).all (fun x => match ls[x]? with | some (Loc.mem _) => true | _ => false)
        then some (ce ++ cs, busy2) else none
  | .switch tag cs, base, busy =>
    -- the tag into a temporary that is never released (visiter.go keeps `tagexpr` allocated), the
    -- jump table, then the clauses, each followed by a jump to the end of the switch. `break` in a
    -- clause leaves the switch (Go; /repo since 5d0e719), `continue` belongs to the enclosing loop.
    match compileE ls tag busy with
    | none => none
    | some (ce, rt, busy1) =>
      match compileX ls (base + ce.length + swHeadLen cs + codeLen ls cs) lc cs
          (base + ce.length + swHeadLen cs) busy1 with
      | none => none
      | some (cb, busy2) =>
        some (ce ++ swHeader ls rt (fresh busy1) (base + ce.length + swHeadLen cs) cs ++ cb, busy2)
  | .swCase _ b rest, base, busy =>
    -- inside a switch `lb` is the end of the switch
    match compileX ls lb lc b base busy with
    | none => none
    | some (cb, busy1) =>
      match compileX ls lb lc rest (base + cb.length + 1) busy1 with
      | none => none
      | some (cr, busy2) => some (cb ++ [.j lb] ++ cr, busy2)
  | .swDefault b, base, busy =>
    match compileX ls lb lc b base busy with
    | none => none
    | some (cb, busy1) => some (cb ++ [.j lb], busy1)
  | .ifThen c t, base, busy =>
    match compileC ls base c busy with
    | none => none
    | some (cc, rc, busy1) =>
      match compileX ls lb lc t (base + cc.length + 1) (busy1.erase rc) with
      | none => none
      | some (ct, busy2) =>
        some (cc ++ [.jz rc (base + cc.length + 1 + ct.length)] ++ ct, busy2)
  | .ifElse c t e, base, busy =>
    match compileC ls base c busy with
    | none => none
    | some (cc, rc, busy1) =>
      match compileX ls lb lc t (base + cc.length + 1) (busy1.erase rc) with
      | none => none
      | some (ct, busy2) =>
        match compileX ls lb lc e (base + cc.length + 1 + ct.length + 1) busy2 with
        | none => none
        | some (ce, busy3) =>
          some (cc ++ [.jz rc (base + cc.length + 1 + ct.length + 1)] ++ ct
                  ++ [.j (base + cc.length + 1 + ct.length + 1 + ce.length)] ++ ce, busy3)
  | .loop none body, base, busy =>
    -- `break` leaves to the instruction after the back jump, `continue` goes to the back jump
    match compileX ls (base + codeLen ls body + 1) (base + codeLen ls body) body base busy with
    | none => none
    | some (cb, busy1) => some (cb ++ [.j base], busy1)
  | .loop (some c) body, base, busy =>
    match compileC ls base c busy with
    | none => none
    | some (cc, rc, busy1) =>
      match compileX ls (base + cc.length + 1 + codeLen ls body + 1) (base + cc.length + 1 + codeLen ls body)
          body (base + cc.length + 1) (busy1.erase rc) with
      | none => none
      | some (cb, busy2) =>
        some (cc ++ [.jz rc (base + cc.length + 1 + cb.length + 1)] ++ cb ++ [.j base], busy2)
  | .loopP c body post, base, busy =>
    match compileC ls base c busy with
    | none => none
    | some (cc, rc, busy1) =>
      -- `continue` goes to the post clause, `break` behind the back jump
      match compileX ls (base + cc.length + 1 + codeLen ls body + codeLen ls post + 1)
          (base + cc.length + 1 + codeLen ls body) body (base + cc.length + 1) (busy1.erase rc) with
      | none => none
      | some (cb, busy2) =>
        -- the post clause is outside the body: it is compiled with the labels of the enclosing loop
        match compileX ls lb lc post (base + cc.length + 1 + cb.length) busy2 with
        | none => none
        | some (cp, busy3) =>
          some (cc ++ [.jz rc (base + cc.length + 1 + cb.length + cp.length + 1)] ++ cb ++ cp ++ [.j base], busy3)

/-- `:=` of a name that the *current block* already declares (visiter.go `token.DEFINE`: "Already
    defined variable", live since /repo a87efcf; also the partial re-declaration `x, y := …` that Go
    accepts). Variables are unique indices here, a name of the same scope is the same index: the walk
    carries the indices declared so far in the block (`var` or `:=`; for the body of `main` also the
    top-level declarations), every `if` / `else` / `for` body starts a new scope.
    Result: (refused, indices declared in this block so far). -/
def redeclIn : List Nat → Stmt → Bool × List Nat
  | here, .seq a b =>
    match redeclIn here a with
    | (true, h1) => (true, h1)
    | (false, h1) => redeclIn h1 b
  | here, .decl x => (false, x :: here)
  | here, .define ps => ((ps.map (·.1)).any (fun x => here.contains x), ps.map (·.1) ++ here)
  | here, .ifThen _ t => ((redeclIn [] t).1, here)
  | here, .ifElse _ t e => ((redeclIn [] t).1 || (redeclIn [] e).1, here)
  | here, .loop _ b => ((redeclIn [] b).1, here)
  | here, .loopP _ b q => ((redeclIn [] b).1 || (redeclIn [] q).1, here)
  | here, .switch _ cs => redeclIn here cs      -- the clauses share the `Vars` map of the enclosing block
  | here, .swCase _ b r =>
    match redeclIn here b with
    | (true, h1) => (true, h1)
    | (false, h1) => redeclIn h1 r
  | here, .swDefault b => redeclIn here b
  | here, _ => (false, here)

def redeclProg (p : Prog) : Bool := (redeclIn (List.range p.decls.length) p.body).1

/-- the whole program with `break` / `continue` / post clauses, without the re-declaration check -/
def compileXBody (p : Prog) : Option (List Instr) :=
  let ls := allLocs p
  let pre := preamble p.decls
  match compileX ls 0 0 p.body pre.length (varRegs (locs p.decls)) with
  | some (c, _) => some (pre ++ c)
  | none => none

/-- the whole program with `break` / `continue` / post clauses; a program that re-declares a name of
    the current scope with `:=` is refused -/
def compileXP (p : Prog) : Option (List Instr) :=
  if redeclProg p then none else compileXBody p

def execX (env : Nat → Nat → Nat) (w : Nat) : Nat → Stmt → Src → Src × Status
  | _, .skip, s => (s, .ok)
  | fuel, .seq a b, s =>
    match execX env w fuel a s with
    | (s1, .ok) => execX env w fuel b s1
    | r => r
  | _, .assign x e, s =>
    let (v, s1) := evalE env w e s
    ({ s1 with vars := upd s1.vars x v }, .ok)
  | _, .decl x, s => ({ s with vars := upd s.vars x 0 }, .ok)
  | _, .inc x, s => ({ s with vars := upd s.vars x ((s.vars x + 1) % 2 ^ w) }, .ok)
  | _, .dec x, s => ({ s with vars := upd s.vars x ((s.vars x + (2 ^ w - 1)) % 2 ^ w) }, .ok)
  | _, .iowrite o e, s =>
    let (v, s1) := evalE env w e s
    ({ s1 with outs := (o, v) :: s1.outs }, .ok)
  | _, .brk, s => (s, .brk)
  | _, .cont, s => (s, .cont)
  | _, .tassign ps, s =>
    let (vs, s1) := evalEs env w (ps.map (·.2)) s
    ({ s1 with vars := assignAll s1.vars (ps.map (·.1)) vs }, .ok)
  | _, .define ps, s =>
    let (vs, s1) := evalEs env w (ps.map (·.2)) s
    ({ s1 with vars := assignAll s1.vars (ps.map (·.1)) vs }, .ok)
  | fuel, .ifThen c t, s =>
    match evalC env w c s with
    | (true, s1) => execX env w fuel t s1
    | (false, s1) => (s1, .ok)
  | fuel, .ifElse c t e, s =>
    match evalC env w c s with
    | (true, s1) => execX env w fuel t s1
    | (false, s1) => execX env w fuel e s1
  | fuel, .switch tag cs, s =>
    -- the tag once, then the first clause whose constant equals it (else `default`, else nothing);
    -- a `break` ends the switch, a `continue` is the enclosing loop's
    match execX env w fuel (swSelect w (evalE env w tag s).1 cs) (evalE env w tag s).2 with
    | (s2, .brk) => (s2, .ok)
    | r => r
  -- clauses are run by their `switch` only
  | _, .swCase _ _ _, s => (s, .timeout)
  | _, .swDefault _, s => (s, .timeout)
  | 0, .loop _ _, s => (s, .timeout)
  | 0, .loopP _ _ _, s => (s, .timeout)
  | fuel + 1, .loop none body, s =>
    match execX env w fuel body s with
    | (s1, .ok) => execX env w fuel (.loop none body) s1
    | (s1, .cont) => execX env w fuel (.loop none body) s1
    | (s1, .brk) => (s1, .ok)
    | (s1, .timeout) => (s1, .timeout)
  | fuel + 1, .loop (some c) body, s =>
    match evalC env w c s with
    | (false, s1) => (s1, .ok)
    | (true, s1) =>
      match execX env w fuel body s1 with
      | (s2, .ok) => execX env w fuel (.loop (some c) body) s2
      | (s2, .cont) => execX env w fuel (.loop (some c) body) s2
      | (s2, .brk) => (s2, .ok)
      | (s2, .timeout) => (s2, .timeout)
  | fuel + 1, .loopP c body post, s =>
    match evalC env w c s with
    | (false, s1) => (s1, .ok)
    | (true, s1) =>
      match execX env w fuel body s1 with
      | (s2, .brk) => (s2, .ok)
      | (s2, .timeout) => (s2, .timeout)
      | (s2, _) =>          -- fell through or `continue`: the post clause runs, then the test again
        match execX env w fuel post s2 with
        | (s3, .ok) => execX env w fuel (.loopP c body post) s3
        | r => r
termination_by fuel st _ => (fuel, sizeOf st)
decreasing_by
  all_goals first
    | decreasing_tactic
    | (apply Prod.Lex.right
       have := swSelect_size w (evalE env w tag s).1 cs
       simp
       omega)

/-- `goEval` with `break` / `continue` / post clauses -/
def goEvalX (env : Nat → Nat → Nat) (w : Nat) (fuel : Nat) (p : Prog) : List (Nat × Nat) × Bool :=
  let r := execX env w fuel p.body {}
  (r.1.outs.reverse, decide (r.2 = .ok))

/-- no `break`, `continue`, post clause, tuple assignment, `:=` or `switch` anywhere: the fragment
    `compile` / `exec` cover -/
def plain : Stmt → Bool
  | .seq a b => plain a && plain b
  | .ifThen _ t => plain t
  | .ifElse _ t e => plain t && plain e
  | .loop _ b => plain b
  | .brk | .cont | .loopP _ _ _ | .tassign _ | .define _ | .switch _ _ | .swCase _ _ _ | .swDefault _ => false
  | _ => true

/-- `goEval`: outputs (oldest first) of `main` within `fuel`, and whether `main` returned -/
def goEval (env : Nat → Nat → Nat) (w : Nat) (fuel : Nat) (p : Prog) : List (Nat × Nat) × Bool :=
  let r := exec env w fuel p.body {}
  (r.1.outs.reverse, r.2)

/-- outputs (oldest first) of the compiled program after at most `n` instructions, and whether it
    ran off the end of the program -/
def runCode (env : Nat → Nat → Nat) (w : Nat) (code : List Instr) (n : Nat) : List (Nat × Nat) × Bool :=
  let c := isaRun env w code n {}
  (c.outs.reverse, decide (code.length ≤ c.pc))

/-! ## scoping, placement and the other decidable conditions of the theorems (evaluated by the oracle) -/

/-- straight-line statements: no `if`, no `for` -/
def straight : Stmt → Bool
  | .skip => true
  | .seq a b => straight a && straight b
  | .assign _ _ | .inc _ | .dec _ | .iowrite _ _ => true
  | _ => false

def exprVars : Expr → List Nat
  | .lit _ => []
  | .var x => [x]
  | .ioread _ => []
  | .add a b => exprVars a ++ exprVars b
  | .mul a b => exprVars a ++ exprVars b

def condVars : Cond → List Nat
  | .eq a b => exprVars a ++ exprVars b

/-- variables declared directly in a statement sequence (not those of nested blocks) -/
def topDecls : Stmt → List Nat
  | .seq a b => topDecls a ++ topDecls b
  | .decl x => [x]
  | .define ps => ps.map (·.1)
  | _ => []

/-- the variables a `:=` declares: new, in memory, each cell different from the cells of the variables
    in scope (the earlier ones of the same `:=` included) -/
def newCellsOK (ls : List Loc) : List Nat → List Nat → Bool
  | _, [] => true
  | live, x :: xs =>
    !live.contains x &&
    (match ls[x]? with
     | some (.mem m) => live.all (fun y => ls[y]? != some (.mem m))
     | _ => false) &&
    newCellsOK ls (live ++ [x]) xs

/-- Scoping and placement check (decidable; evaluated by the oracle on every generated program):
    every variable that is read or written is in scope (`live`), a declaration introduces a variable
    that is not yet in scope and whose memory cell is not the cell of any variable in scope.
    Block-local variables leave the scope at the end of their block. -/
def wfS (ls : List Loc) : Stmt → List Nat → Bool
  | .skip, _ => true
  | .seq a b, live => wfS ls a live && wfS ls b (live ++ topDecls a)
  | .decl x, live =>
    !live.contains x &&
    (match ls[x]? with
     | some (.mem m) => live.all (fun y => ls[y]? != some (.mem m))
     | _ => false)
  | .assign x e, live => live.contains x && (exprVars e).all live.contains
  | .inc x, live => live.contains x
  | .dec x, live => live.contains x
  | .iowrite _ e, live => (exprVars e).all live.contains
  | .ifThen c t, live => (condVars c).all live.contains && wfS ls t live
  | .ifElse c t e, live => (condVars c).all live.contains && wfS ls t live && wfS ls e live
  | .loop none b, live => wfS ls b live
  | .loop (some c) b, live => (condVars c).all live.contains && wfS ls b live
  | .brk, _ => true
  | .cont, _ => true
  | .loopP c b p, live => (condVars c).all live.contains && wfS ls b live && wfS ls p live
  | .tassign ps, live => ps.all fun p => live.contains p.1 && (exprVars p.2).all live.contains
  | .define ps, live => (ps.all fun p => (exprVars p.2).all live.contains) && newCellsOK ls live (ps.map (·.1))
  | .switch tag cs, live => (exprVars tag).all live.contains && isChain cs && wfS ls cs live
  | .swCase _ b r, live => wfS ls b live && wfS ls r live
  | .swDefault b, live => wfS ls b live

/-- the scoping / placement check of a whole program: the body is checked against the locations
    `allLocs` computes, starting with the top-level variables in scope -/
def wfProg (p : Prog) : Bool := wfS (allLocs p) p.body (List.range p.decls.length)

/-- all declarations of a statement in textual order, nested blocks included -/
def declOrder : Stmt → List Nat
  | .seq a b => declOrder a ++ declOrder b
  | .decl x => [x]
  | .ifThen _ t => declOrder t
  | .ifElse _ t e => declOrder t ++ declOrder e
  | .loop _ b => declOrder b
  | .loopP _ b p => declOrder b ++ declOrder p
  | .define ps => ps.map (·.1)
  | .switch _ cs => declOrder cs
  | .swCase _ b r => declOrder b ++ declOrder r
  | .swDefault b => declOrder b
  | _ => []

/-- the variables a `:=` declares are new (and pairwise different) -/
def scopedNew : List Nat → List Nat → Bool
  | _, [] => true
  | live, x :: xs => !live.contains x && scopedNew (live ++ [x]) xs

/-- Go's scoping rule on unique indices: whatever is read or written is in scope, a declaration
    introduces a new variable.  It is `wfS` without the locations: the two differ in the clauses `decl`
    and `define` only (`scopedNew` for `newCellsOK`), where `wfS` also asks that the new cell is not the
    cell of a variable in scope — which `placement_sound` derives from the way `blockLocs` hands out
    cells. -/
def scopedS : Stmt → List Nat → Bool
  | .skip, _ => true
  | .seq a b, live => scopedS a live && scopedS b (live ++ topDecls a)
  | .decl x, live => !live.contains x
  | .assign x e, live => live.contains x && (exprVars e).all live.contains
  | .inc x, live => live.contains x
  | .dec x, live => live.contains x
  | .iowrite _ e, live => (exprVars e).all live.contains
  | .ifThen c t, live => (condVars c).all live.contains && scopedS t live
  | .ifElse c t e, live => (condVars c).all live.contains && scopedS t live && scopedS e live
  | .loop none b, live => scopedS b live
  | .loop (some c) b, live => (condVars c).all live.contains && scopedS b live
  | .brk, _ => true
  | .cont, _ => true
  | .loopP c b p, live => (condVars c).all live.contains && scopedS b live && scopedS p live
  | .tassign ps, live => ps.all fun p => live.contains p.1 && (exprVars p.2).all live.contains
  | .define ps, live => (ps.all fun p => (exprVars p.2).all live.contains) && scopedNew live (ps.map (·.1))
  | .switch tag cs, live => (exprVars tag).all live.contains && isChain cs && scopedS cs live
  | .swCase _ b r, live => scopedS b live && scopedS r live
  | .swDefault b, live => scopedS b live

/-- a program after name resolution: well scoped, block-local variables numbered in textual order
    after the top-level ones -/
def scopedProg (p : Prog) : Bool :=
  scopedS p.body (List.range p.decls.length) &&
  (declOrder p.body == List.range' p.decls.length (declOrder p.body).length)

/-- inside a `switch` that is not inside a loop: `break` is the switch's, a `continue` has no loop -/
def noStrayC : Stmt → Bool
  | .cont => false
  | .seq a b => noStrayC a && noStrayC b
  | .ifThen _ t => noStrayC t
  | .ifElse _ t e => noStrayC t && noStrayC e
  | .loopP _ _ p => noStrayC p
  | .switch _ cs => noStrayC cs
  | .swCase _ b r => noStrayC b && noStrayC r
  | .swDefault b => noStrayC b
  | _ => true

/-- `break` / `continue` occur inside loops only — and `break` inside a `switch` (the real compiler
    rejects the others: "break outside a loop") -/
def noStray : Stmt → Bool
  | .brk => false
  | .cont => false
  | .seq a b => noStray a && noStray b
  | .ifThen _ t => noStray t
  | .ifElse _ t e => noStray t && noStray e
  | .loopP _ _ p => noStray p      -- the post clause belongs to the context of the loop
  | .switch _ cs => noStrayC cs    -- `break` in a clause ends the switch; `continue` needs a loop
  | _ => true

end BMV.Bondgo
